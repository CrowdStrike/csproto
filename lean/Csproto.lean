import Csproto.Model.Basic
import Csproto.Model.Wire
import Csproto.Model.Enc
import Csproto.Model.Dec
import Csproto.Generated.Facts
import Csproto.Model.GoSem
import Csproto.Generated.WireFuncs
import Csproto.Bridge.WireFuncs
import Csproto.Bridge.WireFuncs2
import Csproto.Bridge.DecoderFuncs
import Csproto.Bridge.SkipFuncs
import Csproto.Bridge.SeekFuncs
import Csproto.Bridge.PackedFuncs
import Csproto.Props.C02Source
import Csproto.Props.C02SourceWalk
import Csproto.Props.C03Source
import Csproto.Props.C03SourcePacked
import Csproto.Props.C03SourceRange
import Csproto.Bridge.EncoderFuncs
import Csproto.Bridge.PackedEncFuncs
import Csproto.Props.C01Source
import Csproto.Props.C01SourcePacked
import Csproto.Bridge.Facts
import Csproto.Props.C01
import Csproto.Audit.C01
import Csproto.Spec.WireSpec
import Csproto.Props.C02
import Csproto.Audit.C02
import Csproto.Props.C03
import Csproto.Audit.C03
import Csproto.Generated.Dispatch
import Csproto.Bridge.Dispatch
import Csproto.Props.C19
import Csproto.Audit.C19
import Csproto.Generated.Tools
import Csproto.Bridge.Tools
import Csproto.Props.C20
import Csproto.Audit.C20
import Csproto.Generated.Lazy
import Csproto.Bridge.Lazy
import Csproto.Props.C13
import Csproto.Audit.C13
import Csproto.Props.C14
import Csproto.Props.C14History
import Csproto.Props.C14Opts
import Csproto.Audit.C14
import Csproto.Bridge.LazyWrites
import Csproto.Props.C15
import Csproto.Audit.C15
import Csproto.Generated.Shim
import Csproto.Bridge.Shim
import Csproto.Model.Shim
import Csproto.Model.Ext
import Csproto.Props.C11
import Csproto.Audit.C11
import Csproto.Generated.Templates
import Csproto.Generated.Aliasing
import Csproto.Bridge.Templates
import Csproto.Bridge.Aliasing
import Csproto.Model.Gen
import Csproto.Model.GenDec
import Csproto.Proofs.Gen
import Csproto.Proofs.GenDec
import Csproto.Props.C04
import Csproto.Props.C04Ext
import Csproto.Props.C04FirstUse
import Csproto.Audit.C04
import Csproto.Props.C05
import Csproto.Audit.C05
import Csproto.Props.C06
import Csproto.Audit.C06
import Csproto.Props.C07
import Csproto.Audit.C07
import Csproto.Props.C08
import Csproto.Audit.C08
import Csproto.Props.C09
import Csproto.Audit.C09
import Csproto.Props.C10
import Csproto.Audit.C10
import Csproto.Props.C16
import Csproto.Audit.C16
import Csproto.Props.C17
import Csproto.Audit.C17
import Csproto.Props.C12
import Csproto.Audit.C12
import Csproto.Props.C18
import Csproto.Audit.C18
import Csproto.Proofs.GenRecords
import Csproto.Proofs.GenRoundtrip
import Csproto.Proofs.GenNested
import Csproto.Proofs.GenNestedRoundtrip
import Csproto.Props.C14Forest
import Csproto.Props.C14NSpec
import Csproto.Props.C14Nested
import Csproto.Props.C14NestedEx
import Csproto.Audit.C14Nested
import Csproto.Props.C13Live
import Csproto.Model.GenMap
import Csproto.Proofs.GenMapTemplate
import Csproto.Proofs.GenMapRoundtrip
import Csproto.Proofs.GenMapSame
import Csproto.Props.C05Map
import Csproto.Audit.C05Map
import Csproto.Model.Prov
import Csproto.Model.ProvLazy
import Csproto.Proofs.Prov
import Csproto.Proofs.ProvLazy
import Csproto.Props.C10Prov
import Csproto.Audit.C10Prov
