import Csproto.Props.C03
import Csproto.Bridge.Facts
import Csproto.Bridge.WireFuncs
import Csproto.Bridge.WireFuncs2
import Csproto.Bridge.DecoderFuncs
import Csproto.Bridge.SkipFuncs
import Csproto.Props.C03Source
import Csproto.Bridge.SeekFuncs
import Csproto.Bridge.PackedFuncs
import Csproto.Props.C03SourcePacked
import Csproto.Props.C03SourceRange
/- axiom audit for C03 -/
open Csproto
#print axioms C03.step_safe
#print axioms C03.run_safe
#print axioms C03.lenPrefix_safe
#print axioms C03.declared_length_beyond_input_is_error
#print axioms C03.packed_safe
#print axioms C03.new_inv
#print axioms packedLoop_safe
#print axioms decodeVarint_ok
#print axioms Bridge.maxFieldLen_ok
#print axioms Bridge.maxTagValue_ok

-- the wire primitives TRANSLATED from the Go source (Generated/WireFuncs.lean) compute what the model says
#print axioms Csproto.Bridge.WireFuncs.EncodeVarint_ok
#print axioms Csproto.Bridge.WireFuncs.EncodeVarint_short
#print axioms Csproto.Bridge.WireFuncs.DecodeVarint_eq
#print axioms Csproto.Bridge.WireFuncs.DecodeFixed32_ok
#print axioms Csproto.Bridge.WireFuncs.DecodeFixed32_short
#print axioms Csproto.Bridge.WireFuncs.DecodeFixed64_ok
#print axioms Csproto.Bridge.WireFuncs.DecodeFixed64_short
#print axioms Csproto.Bridge.WireFuncs.translated_varint_roundtrip

-- second batch of TRANSLATED primitives (functions that call other translated functions): Bridge/WireFuncs2.lean
#print axioms Csproto.Bridge.WireFuncs.DecodeVarint_returns
#print axioms Csproto.Bridge.WireFuncs.DecodeZigZag32_eq
#print axioms Csproto.Bridge.WireFuncs.DecodeZigZag64_eq

-- Decoder METHODS translated from decoder.go refine the transition system Dec.step the property theorems are about: Bridge/DecoderFuncs.lean
#print axioms Csproto.Bridge.DecoderFuncs.DecodeTag_refines
#print axioms Csproto.Bridge.DecoderFuncs.DecodeUInt64_refines
#print axioms Csproto.Bridge.DecoderFuncs.DecodeInt64_refines
#print axioms Csproto.Bridge.DecoderFuncs.DecodeUInt32_refines
#print axioms Csproto.Bridge.DecoderFuncs.DecodeInt32_refines
#print axioms Csproto.Bridge.DecoderFuncs.DecodeSInt32_refines
#print axioms Csproto.Bridge.DecoderFuncs.DecodeSInt64_refines
#print axioms Csproto.Bridge.DecoderFuncs.DecodeFixed32_refines
#print axioms Csproto.Bridge.DecoderFuncs.DecodeFixed64_refines
#print axioms Csproto.Bridge.DecoderFuncs.Offset_refines
#print axioms Csproto.Bridge.DecoderFuncs.Reset_refines

-- DecodeBytes and Skip of the current decoder.go refine Dec.step: Bridge/DecoderFuncs.lean, Bridge/SkipFuncs.lean
#print axioms Csproto.Bridge.DecoderFuncs.DecodeBytes_refines
#print axioms Csproto.Bridge.SkipFuncs.Skip_refines
#print axioms Csproto.Bridge.SkipFuncs.prefix_eval
#print axioms Csproto.Bridge.SkipFuncs.check_eval
#print axioms Csproto.Bridge.SkipFuncs.len_eval

-- C03 stated about the translated source (returns: no panic, no divergence; buffer untouched; failed call leaves the cursor): Props/C03Source.lean
#print axioms Csproto.C03.Source.DecodeTag_safe
#print axioms Csproto.C03.Source.DecodeUInt64_safe
#print axioms Csproto.C03.Source.DecodeInt64_safe
#print axioms Csproto.C03.Source.DecodeUInt32_safe
#print axioms Csproto.C03.Source.DecodeInt32_safe
#print axioms Csproto.C03.Source.DecodeSInt32_safe
#print axioms Csproto.C03.Source.DecodeSInt64_safe
#print axioms Csproto.C03.Source.DecodeFixed32_safe
#print axioms Csproto.C03.Source.DecodeFixed64_safe
#print axioms Csproto.C03.Source.DecodeBytes_safe
#print axioms Csproto.C03.Source.Skip_safe

-- bool paths of the current source: DecodeBool / More / EncodeBool (the byte for false is stored, whatever the destination held)
#print axioms Csproto.Bridge.DecoderFuncs.DecodeBool_refines
#print axioms Csproto.Bridge.DecoderFuncs.More_refines

-- Seek of the current decoder.go (wrapping 64-bit arithmetic, bounds test) refines Dec.step (.seek o w)
#print axioms Csproto.Bridge.SeekFuncs.Seek_refines
#print axioms Csproto.Bridge.SeekFuncs.wrap_add

-- a packed reader of the current decoder.go (loop, append, shadowing locals) refines Dec.step .packedUint64; the loop terminates
#print axioms Csproto.Bridge.PackedFuncs.loop_eq
#print axioms Csproto.Bridge.PackedFuncs.DecodePackedUint64_refines
#print axioms Csproto.Bridge.PackedFuncs.loop_sim
#print axioms Csproto.Bridge.PackedFuncs.DecodePackedInt64_refines
#print axioms Csproto.Bridge.PackedFuncs.DecodePackedSint64_refines
#print axioms Csproto.Bridge.PackedFuncs.DecodePackedSint32_refines
#print axioms Csproto.Bridge.PackedFuncs.DecodePackedUint32_refines
#print axioms Csproto.Bridge.PackedFuncs.DecodePackedInt32_refines
#print axioms Csproto.Bridge.PackedFuncs.DecodePackedFixed64_refines
#print axioms Csproto.Bridge.PackedFuncs.DecodePackedFixed32_refines
#print axioms Csproto.Bridge.PackedFuncs.DecodePackedBool_refines

-- totality of DecodeBool, Seek and nine packed readers of the translated source: Props/C03SourcePacked.lean
#print axioms Csproto.C03.Source.DecodeBool_total
#print axioms Csproto.C03.Source.Seek_total
#print axioms Csproto.C03.Source.DecodePackedUint64_total
#print axioms Csproto.C03.Source.DecodePackedInt64_total
#print axioms Csproto.C03.Source.DecodePackedUint32_total
#print axioms Csproto.C03.Source.DecodePackedInt32_total
#print axioms Csproto.C03.Source.DecodePackedSint64_total
#print axioms Csproto.C03.Source.DecodePackedSint32_total
#print axioms Csproto.C03.Source.DecodePackedFixed64_total
#print axioms Csproto.C03.Source.DecodePackedFixed32_total
#print axioms Csproto.C03.Source.DecodePackedBool_total

-- the cursor clause for the translated source: after every call the cursor is inside the buffer (Props/C03SourceRange.lean)
#print axioms Csproto.C03.Source.model_inrange
#print axioms Csproto.C03.Source.DecodeUInt64_inrange
#print axioms Csproto.C03.Source.DecodeInt64_inrange
#print axioms Csproto.C03.Source.DecodeUInt32_inrange
#print axioms Csproto.C03.Source.DecodeInt32_inrange
#print axioms Csproto.C03.Source.DecodeSInt32_inrange
#print axioms Csproto.C03.Source.DecodeSInt64_inrange
#print axioms Csproto.C03.Source.DecodeFixed32_inrange
#print axioms Csproto.C03.Source.DecodeFixed64_inrange
#print axioms Csproto.C03.Source.DecodeBool_inrange
#print axioms Csproto.C03.Source.DecodeBytes_inrange
#print axioms Csproto.C03.Source.Skip_inrange
#print axioms Csproto.C03.Source.DecodePackedUint64_inrange
#print axioms Csproto.C03.Source.DecodePackedInt64_inrange
#print axioms Csproto.C03.Source.DecodePackedUint32_inrange
#print axioms Csproto.C03.Source.DecodePackedInt32_inrange
#print axioms Csproto.C03.Source.DecodePackedSint64_inrange
#print axioms Csproto.C03.Source.DecodePackedSint32_inrange
#print axioms Csproto.C03.Source.DecodePackedFixed64_inrange
#print axioms Csproto.C03.Source.DecodePackedFixed32_inrange
#print axioms Csproto.C03.Source.DecodePackedBool_inrange
