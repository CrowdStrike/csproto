import Csproto.Props.C11
import Csproto.Bridge.Shim
/- axiom audit for C11 -/
#print axioms Csproto.C11.classify_supported
#print axioms Csproto.C11.classify_unsupported
#print axioms Csproto.C11.classify_v2_first
#print axioms Csproto.C11.cacheInv_init
#print axioms Csproto.C11.cacheInv_step
#print axioms Csproto.C11.cache_stable
#print axioms Csproto.C11.returned_value_correct
#print axioms Csproto.C11.firstProbe_head
#print axioms Csproto.C11.firstProbe_none
#print axioms Csproto.C11.equal_transparent
#print axioms Csproto.C11.equal_cross_class
#print axioms Csproto.C11.equal_unsupported
#print axioms Csproto.C11.equal_ignores_identity
#print axioms Csproto.C11.shortcut_transparent_iff
#print axioms Csproto.C11.shortcut_witness
#print axioms Csproto.C11.shortcut_only_on_same_pointer
#print axioms Csproto.C11.unary_transparent
#print axioms Csproto.Bridge.arms_call_owner
#print axioms Csproto.Bridge.arms_assert_owner
#print axioms Csproto.Bridge.arms_reach_expected
#print axioms Csproto.Bridge.deduceSkeleton_ok
#print axioms Csproto.Bridge.msgTypeProtocol_ok
#print axioms Csproto.Bridge.jsonProbes_ok
#print axioms Csproto.Bridge.jsonWiring_ok
#print axioms Csproto.Bridge.jsonSetters_ok
#print axioms Csproto.Bridge.jsonOptionWrites_ok
#print axioms Csproto.Bridge.no_cached_size_requests
#print axioms Csproto.Bridge.grpcCodec_ok
#print axioms Csproto.Bridge.resetProbes_ok
#print axioms Csproto.Bridge.marshalTextProbes_ok
#print axioms Csproto.Bridge.shimFrame_ok
#print axioms Csproto.Bridge.shimArms_ok
#print axioms Csproto.Bridge.shimArms_complete
