import Csproto.Props.C14
import Csproto.Props.C14History
import Csproto.Bridge.Lazy
import Csproto.Props.C14Nested
import Csproto.Props.C14NestedEx
import Csproto.Props.C14Opts
/- axiom audit for C14 -/
open Csproto
#print axioms C14.clean_eq_new
#print axioms C14.decodeIntoLoop_congr
#print axioms C14.decode_into_clean
#print axioms C14.accessFD_congr
#print axioms C14.accessTag_congr
#print axioms C14.nestedSelect_congr
#print axioms C14.obj_setObj
#print axioms C14.pool_setPool
#print axioms C14.closeObj_onlyClears
#print axioms C14.closeRes_pools
#print axioms C14.reuse_eq_new
#print axioms C14.reuse_answers
#print axioms C13.decode_records
#print axioms C13.decodeInto_total
#print axioms Bridge.lazyAccessors_ok
#print axioms Csproto.C14.step_refines
#print axioms Csproto.C14.flat_history_refines
#print axioms Csproto.C14.flat_history_no_panic
#print axioms Csproto.C14.histEx_ok
#print axioms Csproto.C14.histEx_outputs
-- C14Nested
#print axioms Csproto.C14N.fold_close
#print axioms Csproto.C14N.closeObj_spec
#print axioms Csproto.C14N.closeObj_misc
#print axioms Csproto.C14N.decodeAt
#print axioms Csproto.C14N.W.attach
#print axioms Csproto.C14N.attach_spec
#print axioms Csproto.C14N.close_root
#print axioms Csproto.C14N.accPath_spec
#print axioms Csproto.C14N.nesteds_loop
#print axioms Csproto.C14N.nstep_refines
#print axioms Csproto.C14N.nested_history_refines
#print axioms Csproto.C14N.nested_history_no_panic
#print axioms Csproto.C14N.nhistOKb_sound
#print axioms Csproto.C14N.nhistEx_ok
#print axioms Csproto.C14N.nhistEx_outputs
#print axioms Csproto.C14N.accPathC_spec
#print axioms Csproto.C14N.xstep_refines
#print axioms Csproto.C14N.nested_history_refines_x
#print axioms Csproto.C14N.xhistEx_ok
#print axioms Csproto.C14N.xhistEx_outputs
#print axioms Csproto.C14Opts.closeFds_erases_options
#print axioms Csproto.C14Opts.closeFds_all_empty
#print axioms Csproto.C14Opts.closeFds_option_independent
#print axioms Csproto.C14Opts.closeFds_lazy_reset_witness
#print axioms Csproto.Bridge.lazyClose_resets_first
