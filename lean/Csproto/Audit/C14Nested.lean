import Csproto.Props.C14Nested
import Csproto.Props.C14NestedEx
/- axiom audit for C14, histories with nested results -/
open Csproto
#print axioms C14N.fold_close
#print axioms C14N.closeObj_spec
#print axioms C14N.closeObj_misc
#print axioms C14N.decodeAt
#print axioms C14N.W.attach
#print axioms C14N.attach_spec
#print axioms C14N.close_root
#print axioms C14N.accPath_spec
#print axioms C14N.nesteds_loop
#print axioms C14N.nstep_refines
#print axioms C14N.nested_history_refines
#print axioms C14N.nested_history_no_panic
#print axioms C14N.nhistOKb_sound
#print axioms C14N.nhistEx_ok
#print axioms C14N.nhistEx_outputs
#print axioms C14N.accPathC_spec
#print axioms C14N.xstep_refines
#print axioms C14N.nested_history_refines_x
#print axioms C14N.xhistEx_ok
#print axioms C14N.xhistEx_outputs
