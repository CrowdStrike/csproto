import Csproto.Props.C10Prov
/- axiom audit for C10 (provenance model) -/
#print axioms Csproto.C10Prov.template_policy_safe
#print axioms Csproto.C10Prov.policy_from_facts
#print axioms Csproto.C10Prov.erasure
#print axioms Csproto.C10Prov.succeeds_iff
#print axioms Csproto.C10Prov.safe_mode_owns_everything
#print axioms Csproto.C10Prov.clobber_invariant
#print axioms Csproto.C10Prov.clobbered_reads_decoded
#print axioms Csproto.C10Prov.safe_mode_never_aliases
#print axioms Csproto.C10Prov.fast_mode_aliases
#print axioms Csproto.C10Prov.fast_mode_bytes_alias
#print axioms Csproto.C10Prov.nocopy_bytes_arm_aliases
#print axioms Csproto.C10Prov.nested_alias_is_relative_to_outer_buffer
#print axioms Csproto.C10Prov.unknown_fields_owned_in_fast_mode
#print axioms Csproto.C10Prov.every_site_example
#print axioms Csproto.C10Prov.lazy_erasure
#print axioms Csproto.C10Prov.lazy_safe_backing
#print axioms Csproto.C10Prov.lazy_clobber_invariant
#print axioms Csproto.C10Prov.lazy_accessors_clobber_invariant
#print axioms Csproto.C10Prov.lazy_nested
#print axioms Csproto.C10Prov.lazy_value_erasure
#print axioms Csproto.C10Prov.lazy_values_clobber_invariant
#print axioms Csproto.C10Prov.lazy_fast_mode_aliases
#print axioms Csproto.Prov.unmarshalP_agrees
#print axioms Csproto.Prov.erase_decodeIntoLoop
