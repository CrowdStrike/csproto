import Csproto.Props.C09
/- axiom audit for C09 -/
#print axioms Csproto.C09.genMarshal_no_cache
#print axioms Csproto.C09.history_invariant
#print axioms Csproto.C09.initial_cache_irrelevant
#print axioms Csproto.C09.fact_no_size_cache
#print axioms Csproto.C09.readers_agree
#print axioms Csproto.C09.cache_reader_breaks_it
#print axioms Csproto.C09.runtime_cache_convention_breaks_it
#print axioms Csproto.Gen.unmarshal_nil
#print axioms Csproto.C09.unmarshal_empty_is_reset
#print axioms Csproto.C09.marshal_after_empty_unmarshal
#print axioms Csproto.C09.fact_csproto_routes
#print axioms Csproto.C09.fact_extension_order_static
