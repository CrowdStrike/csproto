import Csproto.Bridge.EncStage
/-
  Bridge for the TRANSLATED `Encoder` methods: `(*Encoder).EncodeUInt64`, `EncodeUInt32`, `EncodeInt64`, `EncodeInt32`,
  `EncodeSInt32`, `EncodeSInt64`, `EncodeFixed32`, `EncodeFixed64`, `EncodeMapEntryHeader`, `EncodeBool`, `EncodeBytes` and
  `EncodeRaw` of `/repo`'s current encoder.go, translated statement by statement (`Generated/WireFuncs.lean`).

  REFINEMENT: for every buffer shorter than 2^63 bytes (`EncodeBytes`, `EncodeRaw`: buffer and payload shorter than 2^62;
  `EncodeRaw`: cursor below 2^63) the translated method and `Enc.step` of the hand-written encoder model (`Model/Enc.lean`,
  what C01, C02, C04, C05, C19 are proved about) agree: when the model's step succeeds the method returns with exactly the
  model's buffer and cursor; when the model's step panics (buffer too short) the method panics (index out of range inside
  `EncodeVarint`, or slice bounds out of range).  The hypothesis `hoff` (cursor within the buffer) of the statements is not
  needed: with the cursor beyond the buffer both sides panic.

  The statements and what they store are those of `Bridge/EncStage`. Nine methods are key, then value (`keyValue_refines`);
  `EncodeBool` is key, then the indexed store of a `bool`; `EncodeBytes` is key and length prefix — one store of the model —
  and then a `copy`; `EncodeRaw` is a `copy` alone.
-/
set_option linter.unusedVariables false
namespace Csproto.Bridge.EncoderFuncs
open Csproto Csproto.Generated.WireFuncs Csproto.Bridge Csproto.Bridge.WireFuncs

theorem store_store (p : Bytes) (off : Nat) (a b : Bytes) (k : Enc → Res Enc) :
    (({ buf := p, off := off } : Enc).store a >>= fun e => e.store b >>= k) = ({ buf := p, off := off } : Enc).store (a ++ b) >>= k := by
  by_cases h1 : off + a.length ≤ p.length
  · rw [store_ok _ _ _ h1, Res.bind_ok]
    by_cases h2 : off + a.length + b.length ≤ p.length
    · rw [store_ok _ _ _ (by rw [writeAt_length h1]; exact h2), store_ok _ _ (a ++ b) (by rw [List.length_append, ← Nat.add_assoc]; exact h2),
        writeAt_writeAt _ _ _ _ h2, List.length_append, Nat.add_assoc]
    · rw [store_panic _ _ _ (by rw [writeAt_length h1]; exact h2), store_panic _ _ (a ++ b) (by rw [List.length_append, ← Nat.add_assoc]; exact h2)]
  · rw [store_panic _ _ _ h1, store_panic _ _ (a ++ b) (by rw [List.length_append]; omega)]
    rfl

theorem step_bytes (p : Bytes) (off t : Nat) (v : Bytes) :
    ({ buf := p, off := off } : Enc).step (.bytes t v) =
      EncOut.ofRes (({ buf := p, off := off } : Enc).store (encTag t wtLen ++ encVarint v.length) >>= fun e => e.copy v) :=
  congrArg EncOut.ofRes (store_store _ _ _ _ _)

theorem copyAt_eq (q : Bytes) (lo : Nat) (v : Bytes) : Go.copyAt q lo v = writeAt q lo (v.take (q.length - lo)) := rfl

/-- `copy(e.p[e.offset:], v); e.offset += len(v)` and the model's `Enc.copy` -/
theorem copy_ok (p : Bytes) (off : BitVec 64) (v : Bytes) (hle : off.toNat ≤ p.length) (h : off.toNat + v.length < 2 ^ 64) :
    ({ buf := p, off := off.toNat } : Enc).copy v =
      .ok { buf := Go.copyAt p off.toNat v, off := (off + BitVec.ofNat 64 v.length).toNat } := by
  rw [adv_toNat _ _ h]
  exact if_pos hle

section
/- Each generated body is, up to unfolding, a sequence of `advance` statements, which `rfl` checks.  The translator's `match`
   and the one in `advance` are compiled to different auxiliary definitions; the elaborator unfolds two such stuck matches
   against each other only with smart unfolding off, and would unfold the primitives under them at every attempt to
   reduce them, so these are opaque here.  The proofs are terms `(e :)`: `e` is elaborated on its own, and only its finished
   type (`Refines …`) is compared with the statement's `match`, once. -/
set_option smartUnfolding false
attribute [local irreducible] EncodeTag EncodeVarint EncodeZigZag32 EncodeZigZag64 EncodeFixed32 EncodeFixed64 EncOut.ofRes

/-- **`(*Encoder).EncodeUInt64` of the source refines `Enc.step (.varint tag v)`** -/
theorem EncodeUInt64_refines (fuel : Nat) (hf : 10 ≤ fuel) (p : Bytes) (off tag : BitVec 64) (v : BitVec 64)
    (hp : p.length < 2 ^ 63) (hoff : off.toNat ≤ p.length) :
    match ({ buf := p, off := off.toNat } : Enc).step (.varint tag.toNat v.toNat) with
    | .ok e' => ∃ s, Encoder_EncodeUInt64 fuel p off tag v = .ret () s ∧ s.e_p = e'.buf ∧ s.e_offset.toNat = e'.off
    | .panic => Encoder_EncodeUInt64 fuel p off tag v = .panic
    | .err _ => False :=
  (keyValue_refines (Encoder_EncodeUInt64 fuel p off tag v) { e_p := p, e_offset := off, tag := tag, v := v }
    (·.e_p) (·.e_offset) (fun s b c => { s with e_p := b, e_offset := c }) (fun _ _ _ => rfl) (fun _ _ _ => rfl)
    (K := fun s d => EncodeTag fuel d s.tag 0#64) (dk := (·.dest))
    (V := fun s d => EncodeVarint fuel d s.v) (dv := (·.dest))
    (op := .varint tag.toNat v.toNat) (kb := encTag tag.toNat wtVarint) (vb := encVarint v.toNat)
    (hstep := fun _ => rfl) (hp := hp)
    (hK := fun d => EncodeTag_emits fuel hf d tag 0#64)
    (hV := fun _ _ d => EncodeVarint_emits fuel hf d v)
    (hM := by rfl) :)

/-- **`(*Encoder).EncodeInt64` of the source refines `Enc.step (.varint tag (uint64 v))` (`uint64(v)` of an int64 is the same 64 bits)** -/
theorem EncodeInt64_refines (fuel : Nat) (hf : 10 ≤ fuel) (p : Bytes) (off tag : BitVec 64) (v : BitVec 64)
    (hp : p.length < 2 ^ 63) (hoff : off.toNat ≤ p.length) :
    match ({ buf := p, off := off.toNat } : Enc).step (.varint tag.toNat v.toNat) with
    | .ok e' => ∃ s, Encoder_EncodeInt64 fuel p off tag v = .ret () s ∧ s.e_p = e'.buf ∧ s.e_offset.toNat = e'.off
    | .panic => Encoder_EncodeInt64 fuel p off tag v = .panic
    | .err _ => False :=
  (keyValue_refines (Encoder_EncodeInt64 fuel p off tag v) { e_p := p, e_offset := off, tag := tag, v := v }
    (·.e_p) (·.e_offset) (fun s b c => { s with e_p := b, e_offset := c }) (fun _ _ _ => rfl) (fun _ _ _ => rfl)
    (K := fun s d => EncodeTag fuel d s.tag 0#64) (dk := (·.dest))
    (V := fun s d => EncodeVarint fuel d s.v) (dv := (·.dest))
    (op := .varint tag.toNat v.toNat) (kb := encTag tag.toNat wtVarint) (vb := encVarint v.toNat)
    (hstep := fun _ => rfl) (hp := hp)
    (hK := fun d => EncodeTag_emits fuel hf d tag 0#64)
    (hV := fun _ _ d => EncodeVarint_emits fuel hf d v)
    (hM := by rfl) :)

/-- **`(*Encoder).EncodeUInt32` of the source refines `Enc.step (.varint tag (uint64 v))` (zero extension)** -/
theorem EncodeUInt32_refines (fuel : Nat) (hf : 10 ≤ fuel) (p : Bytes) (off tag : BitVec 64) (v : BitVec 32)
    (hp : p.length < 2 ^ 63) (hoff : off.toNat ≤ p.length) :
    match ({ buf := p, off := off.toNat } : Enc).step (.varint tag.toNat (BitVec.setWidth 64 v).toNat) with
    | .ok e' => ∃ s, Encoder_EncodeUInt32 fuel p off tag v = .ret () s ∧ s.e_p = e'.buf ∧ s.e_offset.toNat = e'.off
    | .panic => Encoder_EncodeUInt32 fuel p off tag v = .panic
    | .err _ => False :=
  (keyValue_refines (Encoder_EncodeUInt32 fuel p off tag v) { e_p := p, e_offset := off, tag := tag, v := v }
    (·.e_p) (·.e_offset) (fun s b c => { s with e_p := b, e_offset := c }) (fun _ _ _ => rfl) (fun _ _ _ => rfl)
    (K := fun s d => EncodeTag fuel d s.tag 0#64) (dk := (·.dest))
    (V := fun s d => EncodeVarint fuel d (BitVec.setWidth 64 s.v)) (dv := (·.dest))
    (op := .varint tag.toNat (BitVec.setWidth 64 v).toNat) (kb := encTag tag.toNat wtVarint) (vb := encVarint (BitVec.setWidth 64 v).toNat)
    (hstep := fun _ => rfl) (hp := hp)
    (hK := fun d => EncodeTag_emits fuel hf d tag 0#64)
    (hV := fun _ _ d => EncodeVarint_emits fuel hf d (BitVec.setWidth 64 v))
    (hM := by rfl) :)

/-- **`(*Encoder).EncodeInt32` of the source refines `Enc.step (.varint tag (uint64 v))`: `uint64(v)` of an int32 SIGN-extends, a negative value is written as ten bytes** -/
theorem EncodeInt32_refines (fuel : Nat) (hf : 10 ≤ fuel) (p : Bytes) (off tag : BitVec 64) (v : BitVec 32)
    (hp : p.length < 2 ^ 63) (hoff : off.toNat ≤ p.length) :
    match ({ buf := p, off := off.toNat } : Enc).step (.varint tag.toNat (BitVec.signExtend 64 v).toNat) with
    | .ok e' => ∃ s, Encoder_EncodeInt32 fuel p off tag v = .ret () s ∧ s.e_p = e'.buf ∧ s.e_offset.toNat = e'.off
    | .panic => Encoder_EncodeInt32 fuel p off tag v = .panic
    | .err _ => False :=
  (keyValue_refines (Encoder_EncodeInt32 fuel p off tag v) { e_p := p, e_offset := off, tag := tag, v := v }
    (·.e_p) (·.e_offset) (fun s b c => { s with e_p := b, e_offset := c }) (fun _ _ _ => rfl) (fun _ _ _ => rfl)
    (K := fun s d => EncodeTag fuel d s.tag 0#64) (dk := (·.dest))
    (V := fun s d => EncodeVarint fuel d (BitVec.signExtend 64 s.v)) (dv := (·.dest))
    (op := .varint tag.toNat (BitVec.signExtend 64 v).toNat) (kb := encTag tag.toNat wtVarint) (vb := encVarint (BitVec.signExtend 64 v).toNat)
    (hstep := fun _ => rfl) (hp := hp)
    (hK := fun d => EncodeTag_emits fuel hf d tag 0#64)
    (hV := fun _ _ d => EncodeVarint_emits fuel hf d (BitVec.signExtend 64 v))
    (hM := by rfl) :)

/-- **`(*Encoder).EncodeSInt64` of the source refines `Enc.step (.zigzag64 tag v)`** -/
theorem EncodeSInt64_refines (fuel : Nat) (hf : 10 ≤ fuel) (p : Bytes) (off tag : BitVec 64) (v : BitVec 64)
    (hp : p.length < 2 ^ 63) (hoff : off.toNat ≤ p.length) :
    match ({ buf := p, off := off.toNat } : Enc).step (.zigzag64 tag.toNat v.toInt) with
    | .ok e' => ∃ s, Encoder_EncodeSInt64 fuel p off tag v = .ret () s ∧ s.e_p = e'.buf ∧ s.e_offset.toNat = e'.off
    | .panic => Encoder_EncodeSInt64 fuel p off tag v = .panic
    | .err _ => False :=
  (keyValue_refines (Encoder_EncodeSInt64 fuel p off tag v) { e_p := p, e_offset := off, tag := tag, v := v }
    (·.e_p) (·.e_offset) (fun s b c => { s with e_p := b, e_offset := c }) (fun _ _ _ => rfl) (fun _ _ _ => rfl)
    (K := fun s d => EncodeTag fuel d s.tag 0#64) (dk := (·.dest))
    (V := fun s d => EncodeZigZag64 fuel d s.v) (dv := (·.dest))
    (op := .zigzag64 tag.toNat v.toInt) (kb := encTag tag.toNat wtVarint) (vb := encZigZag64 v.toInt)
    (hstep := fun _ => rfl) (hp := hp)
    (hK := fun d => EncodeTag_emits fuel hf d tag 0#64)
    (hV := fun _ _ d => EncodeZigZag64_emits fuel hf d v)
    (hM := by rfl) :)

/-- **`(*Encoder).EncodeSInt32` of the source refines `Enc.step (.zigzag32 tag v)`** -/
theorem EncodeSInt32_refines (fuel : Nat) (hf : 10 ≤ fuel) (p : Bytes) (off tag : BitVec 64) (v : BitVec 32)
    (hp : p.length < 2 ^ 63) (hoff : off.toNat ≤ p.length) :
    match ({ buf := p, off := off.toNat } : Enc).step (.zigzag32 tag.toNat v.toInt) with
    | .ok e' => ∃ s, Encoder_EncodeSInt32 fuel p off tag v = .ret () s ∧ s.e_p = e'.buf ∧ s.e_offset.toNat = e'.off
    | .panic => Encoder_EncodeSInt32 fuel p off tag v = .panic
    | .err _ => False :=
  (keyValue_refines (Encoder_EncodeSInt32 fuel p off tag v) { e_p := p, e_offset := off, tag := tag, v := v }
    (·.e_p) (·.e_offset) (fun s b c => { s with e_p := b, e_offset := c }) (fun _ _ _ => rfl) (fun _ _ _ => rfl)
    (K := fun s d => EncodeTag fuel d s.tag 0#64) (dk := (·.dest))
    (V := fun s d => EncodeZigZag32 fuel d s.v) (dv := (·.dest))
    (op := .zigzag32 tag.toNat v.toInt) (kb := encTag tag.toNat wtVarint) (vb := encZigZag32 v.toInt)
    (hstep := fun _ => rfl) (hp := hp)
    (hK := fun d => EncodeTag_emits fuel hf d tag 0#64)
    (hV := fun _ _ d => EncodeZigZag32_emits fuel hf d v)
    (hM := by rfl) :)

/-- **`(*Encoder).EncodeMapEntryHeader` of the source refines `Enc.step (.mapHeader tag size)` (key with wire type 2, then the entry size as a varint)** -/
theorem EncodeMapEntryHeader_refines (fuel : Nat) (hf : 10 ≤ fuel) (p : Bytes) (off tag : BitVec 64) (v : BitVec 64)
    (hp : p.length < 2 ^ 63) (hoff : off.toNat ≤ p.length) :
    match ({ buf := p, off := off.toNat } : Enc).step (.mapHeader tag.toNat v.toNat) with
    | .ok e' => ∃ s, Encoder_EncodeMapEntryHeader fuel p off tag v = .ret () s ∧ s.e_p = e'.buf ∧ s.e_offset.toNat = e'.off
    | .panic => Encoder_EncodeMapEntryHeader fuel p off tag v = .panic
    | .err _ => False :=
  (keyValue_refines (Encoder_EncodeMapEntryHeader fuel p off tag v) { e_p := p, e_offset := off, tag := tag, size := v }
    (·.e_p) (·.e_offset) (fun s b c => { s with e_p := b, e_offset := c }) (fun _ _ _ => rfl) (fun _ _ _ => rfl)
    (K := fun s d => EncodeTag fuel d s.tag 2#64) (dk := (·.dest))
    (V := fun s d => EncodeVarint fuel d s.size) (dv := (·.dest))
    (op := .mapHeader tag.toNat v.toNat) (kb := encTag tag.toNat wtLen) (vb := encVarint v.toNat)
    (hstep := fun _ => rfl) (hp := hp)
    (hK := fun d => EncodeTag_emits fuel hf d tag 2#64)
    (hV := fun _ _ d => EncodeVarint_emits fuel hf d v)
    (hM := by rfl) :)

/-- **`(*Encoder).EncodeFixed32` of the source refines `Enc.step (.fixed32 tag v)` (key with wire type 5, then the 4 little-endian bytes)** -/
theorem EncodeFixed32_refines (fuel : Nat) (hf : 10 ≤ fuel) (p : Bytes) (off tag : BitVec 64) (v : BitVec 32)
    (hp : p.length < 2 ^ 63) (hoff : off.toNat ≤ p.length) :
    match ({ buf := p, off := off.toNat } : Enc).step (.fixed32 tag.toNat v.toNat) with
    | .ok e' => ∃ s, Encoder_EncodeFixed32 fuel p off tag v = .ret () s ∧ s.e_p = e'.buf ∧ s.e_offset.toNat = e'.off
    | .panic => Encoder_EncodeFixed32 fuel p off tag v = .panic
    | .err _ => False :=
  (keyValue_refines (Encoder_EncodeFixed32 fuel p off tag v) { e_p := p, e_offset := off, tag := tag, v := v }
    (·.e_p) (·.e_offset) (fun s b c => { s with e_p := b, e_offset := c }) (fun _ _ _ => rfl) (fun _ _ _ => rfl)
    (K := fun s d => EncodeTag fuel d s.tag 5#64) (dk := (·.dest))
    (V := fun s d => EncodeFixed32 fuel d s.v) (dv := (·.dest))
    (op := .fixed32 tag.toNat v.toNat) (kb := encTag tag.toNat wtFixed32) (vb := encFixed32 v.toNat)
    (hstep := fun _ => rfl) (hp := hp)
    (hK := fun d => EncodeTag_emits fuel hf d tag 5#64)
    (hV := fun _ _ d => EncodeFixed32_emits fuel d v)
    (hM := by rfl) :)

/-- **`(*Encoder).EncodeFixed64` of the source refines `Enc.step (.fixed64 tag v)` (key with wire type 1, then the 8 little-endian bytes)** -/
theorem EncodeFixed64_refines (fuel : Nat) (hf : 10 ≤ fuel) (p : Bytes) (off tag : BitVec 64) (v : BitVec 64)
    (hp : p.length < 2 ^ 63) (hoff : off.toNat ≤ p.length) :
    match ({ buf := p, off := off.toNat } : Enc).step (.fixed64 tag.toNat v.toNat) with
    | .ok e' => ∃ s, Encoder_EncodeFixed64 fuel p off tag v = .ret () s ∧ s.e_p = e'.buf ∧ s.e_offset.toNat = e'.off
    | .panic => Encoder_EncodeFixed64 fuel p off tag v = .panic
    | .err _ => False :=
  (keyValue_refines (Encoder_EncodeFixed64 fuel p off tag v) { e_p := p, e_offset := off, tag := tag, v := v }
    (·.e_p) (·.e_offset) (fun s b c => { s with e_p := b, e_offset := c }) (fun _ _ _ => rfl) (fun _ _ _ => rfl)
    (K := fun s d => EncodeTag fuel d s.tag 1#64) (dk := (·.dest))
    (V := fun s d => EncodeFixed64 fuel d s.v) (dv := (·.dest))
    (op := .fixed64 tag.toNat v.toNat) (kb := encTag tag.toNat wtFixed64) (vb := encFixed64 v.toNat)
    (hstep := fun _ => rfl) (hp := hp)
    (hK := fun d => EncodeTag_emits fuel hf d tag 1#64)
    (hV := fun _ _ d => EncodeFixed64_emits fuel d v)
    (hM := by rfl) :)

/-- **`(*Encoder).EncodeBool` of the source refines `Enc.step (.bool tag v)`**: the byte for `false` is STORED too (the
    destination may hold anything), and the call panics exactly when key + 1 byte do not fit -/
theorem EncodeBool_refines (fuel : Nat) (hf : 10 ≤ fuel) (p : Bytes) (off tag : BitVec 64) (v : Bool)
    (hp : p.length < 2 ^ 63) (hoff : off.toNat ≤ p.length) :
    match ({ buf := p, off := off.toNat } : Enc).step (.bool tag.toNat v) with
    | .ok e' => ∃ s, Encoder_EncodeBool fuel p off tag v = .ret () s ∧ s.e_p = e'.buf ∧ s.e_offset.toNat = e'.off
    | .panic => Encoder_EncodeBool fuel p off tag v = .panic
    | .err _ => False :=
  (((advance_writes (σ := Encoder_EncodeBool.St) (ρ := Unit) (·.e_p) (·.e_offset)
      (fun s b c => { s with e_p := b, e_offset := c }) (fun _ _ _ => rfl) (fun _ _ _ => rfl)
      (W := fun s d => EncodeTag fuel d s.tag 0#64) (dst := (·.dest))
      { e_p := p, e_offset := off, tag := tag, v := v } _ hp (EncodeTag_emits fuel hf _ tag 0#64)).seq
    fun s' hl _ ⟨b, c, hs⟩ => storeBool_writes (σ := Encoder_EncodeBool.St) (·.e_p) (·.e_offset) (fun s b c => { s with e_p := b, e_offset := c })
      (fun _ _ _ => rfl) (fun _ _ _ => rfl) (v := (·.v)) s' (x := v) (by rw [hs]) (hl ▸ hp)).refines :)

/-- the generated body of `EncodeBytes`: key, length prefix, `copy(e.p[e.offset:], v)`, `e.offset += len(v)`, `return` -/
theorem EncodeBytes_eq (fuel : Nat) (p : Bytes) (off tag : BitVec 64) (v : Bytes) :
    Encoder_EncodeBytes fuel p off tag v = Go.seq (Go.seq
      (advance (·.e_p) (·.e_offset) (fun s b c => { s with e_p := b, e_offset := c }) (fun s d => EncodeTag fuel d s.tag 2#64) (·.dest))
      (Go.seq (advance (·.e_p) (·.e_offset) (fun s b c => { s with e_p := b, e_offset := c })
        (fun s d => EncodeVarint fuel d (BitVec.ofNat 64 s.v.length)) (·.dest))
      (Go.seq (fun s => if s.e_offset.toNat ≤ s.e_p.length then .next { s with e_p := Go.copyAt s.e_p s.e_offset.toNat s.v } else .panic)
        (fun s => .next { s with e_offset := s.e_offset + BitVec.ofNat 64 s.v.length }))))
      (fun s => .ret () s) { e_p := p, e_offset := off, tag := tag, v := v } := by
  rfl

end

/-- **`(*Encoder).EncodeBytes` of the source refines `Enc.step (.bytes tag v)`**: key and length prefix are indexed stores
    (panic when they do not fit), the payload is a `copy` — SILENTLY truncated when the buffer is short, and the cursor
    still advances by `len(v)` — exactly as the model says. -/
theorem EncodeBytes_refines (fuel : Nat) (hf : 10 ≤ fuel) (p : Bytes) (off tag : BitVec 64) (v : Bytes)
    (hp : p.length < 2 ^ 62) (hv : v.length < 2 ^ 62) (hoff : off.toNat ≤ p.length) :
    match ({ buf := p, off := off.toNat } : Enc).step (.bytes tag.toNat v) with
    | .ok e' => ∃ s, Encoder_EncodeBytes fuel p off tag v = .ret () s ∧ s.e_p = e'.buf ∧ s.e_offset.toNat = e'.off
    | .panic => Encoder_EncodeBytes fuel p off tag v = .panic
    | .err _ => False := by
  have hp63 : p.length < 2 ^ 63 := Nat.lt_trans hp (by decide)
  have hN : (BitVec.ofNat 64 v.length).toNat = v.length := Nat.mod_eq_of_lt (Nat.lt_trans hv (by decide))
  have hL : ∀ d, Emits (EncodeVarint fuel d (BitVec.ofNat 64 v.length)) EncodeVarint.St.dest d (encVarint v.length) := fun d => by
    have h := EncodeVarint_emits fuel hf d (BitVec.ofNat 64 v.length)
    rwa [hN] at h
  -- key and length prefix are one store of the model
  have hKL := (advance_writes (σ := Encoder_EncodeBytes.St) (ρ := Unit) (·.e_p) (·.e_offset)
      (fun s b c => { s with e_p := b, e_offset := c }) (fun _ _ _ => rfl) (fun _ _ _ => rfl)
      (W := fun s d => EncodeTag fuel d s.tag 2#64) (dst := (·.dest))
      { e_p := p, e_offset := off, tag := tag, v := v } (encTag tag.toNat wtLen) hp63 (EncodeTag_emits fuel hf _ tag 2#64)).seq
    fun s' hl _ ⟨b, c, hs⟩ => advance_writes (σ := Encoder_EncodeBytes.St) (·.e_p) (·.e_offset)
      (fun s b c => { s with e_p := b, e_offset := c }) (fun _ _ _ => rfl) (fun _ _ _ => rfl)
      (W := fun s d => EncodeVarint fuel d (BitVec.ofNat 64 s.v.length)) (dst := (·.dest))
      s' (encVarint v.length) (hl ▸ hp63) (by subst hs; exact hL _)
  have hM := EncodeBytes_eq fuel p off tag v
  rw [Go.seq_assoc, Go.seq_assoc] at hM
  obtain ⟨hfit, hshort⟩ := hKL.seq_cases (hM.trans (congrFun (Go.seq_assoc _ _ _) _).symm)
  dsimp only at hfit hshort
  rw [step_bytes]
  by_cases h : off.toNat + (encTag tag.toNat wtLen ++ encVarint v.length).length ≤ p.length
  · obtain ⟨s2, e2, hb2, hc2, s1, ⟨_, _, h1⟩, _, _, h2⟩ := hfit h
    have hv2 : s2.v = v := by rw [h2, h1]
    have hle : s2.e_offset.toNat ≤ s2.e_p.length := by rw [hb2, hc2, writeAt_length h]; exact h
    rw [e2, store_ok _ _ _ h, Res.bind_ok, ← hb2, ← hc2,
      copy_ok _ _ v hle (by rw [hc2]; exact Nat.lt_trans (Nat.add_lt_add (Nat.lt_of_le_of_lt h hp) hv) (by decide))]
    simp only [EncOut.ofRes, Go.seq, hle, if_true, hv2]
    exact ⟨_, rfl, rfl, rfl⟩
  · rw [hshort h, store_panic _ _ _ h]
    simp only [EncOut.ofRes, Res.bind_panic]

/-- **`(*Encoder).EncodeRaw` of the source refines `Enc.step (.raw d)`**: nothing for an empty slice; otherwise a `copy`
    (silently truncated when the buffer is short) and the cursor advanced by `len(d)`; a cursor already beyond the buffer
    makes the slice expression panic -/
theorem EncodeRaw_refines (fuel : Nat) (p : Bytes) (off : BitVec 64) (d : Bytes)
    (hp : p.length < 2 ^ 62) (hd : d.length < 2 ^ 62) (hoff63 : off.toNat < 2 ^ 63) :
    match ({ buf := p, off := off.toNat } : Enc).step (.raw d) with
    | .ok e' => ∃ s, Encoder_EncodeRaw fuel p off d = .ret () s ∧ s.e_p = e'.buf ∧ s.e_offset.toNat = e'.off
    | .panic => Encoder_EncodeRaw fuel p off d = .panic
    | .err _ => False := by
  have hslt : BitVec.slt 0#64 (BitVec.ofNat 64 d.length) = decide (0 < d.length) :=
    slt_ofNat 0 d.length (by decide) (Nat.lt_trans hd (by decide))
  unfold Encoder_EncodeRaw Encoder_EncodeRaw.body
  simp only [Go.seq, Go.skip, Enc.step, hslt]
  cases d with
  | nil => exact ⟨_, rfl, rfl, rfl⟩
  | cons x r =>
    simp only [List.length_cons, Nat.zero_lt_succ, decide_true, if_true, List.isEmpty_cons, Bool.false_eq_true, if_false]
    by_cases hle : off.toNat ≤ p.length
    · rw [copy_ok p off (x :: r) hle (by omega)]
      simp only [hle, if_true, EncOut.ofRes]
      exact ⟨_, rfl, rfl, rfl⟩
    · simp only [Enc.copy, Enc.copyAdv, Enc.cap, hle, if_false, EncOut.ofRes]

end Csproto.Bridge.EncoderFuncs
