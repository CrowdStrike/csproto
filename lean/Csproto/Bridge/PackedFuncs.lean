import Csproto.Bridge.DecoderFuncs
/-
  The nine translated packed readers `(*Decoder).DecodePacked…` of decoder.go against `Dec.packed`: each a `for` loop over the
  packed run that calls a translated element reader, appends to a result slice and advances the cursor — which, as in the Go
  code, is NOT restored when an element is malformed or the run overshoots its declared length.

  The translator gives every method a state type of its own, so the argument is made once, over an arbitrary state type looked
  at through a `view` into `Cur`: `loop_sim` (the loop against the model's `packedLoop`) and `packed_refines` (the whole method).
  What they ask of a reader is what one run of its loop body does against the model's element reader (`Step`).  Fuel `len + 2`
  is enough, so the loops terminate.
-/
namespace Csproto.Bridge.PackedFuncs
open Csproto Csproto.Generated.WireFuncs Csproto.Bridge Csproto.Bridge.WireFuncs Csproto.Bridge.DecoderFuncs

section
variable {α : Type} (el : Bytes → Res (α × Nat)) (p : Bytes) (l k nRead off : Nat) (acc : List α)

theorem packedLoop_done (h : ¬ nRead < l) :
    packedLoop el p l (k + 1) nRead off acc = if nRead ≠ l then (off, .err) else (off, .ok acc.reverse) := by
  rw [packedLoop, if_neg h]

theorem packedLoop_stop (h : nRead < l) (hs : p.length ≤ off ∨ el (p.drop off) = .err) :
    packedLoop el p l (k + 1) nRead off acc = (off, .err) := by
  rw [packedLoop, if_pos h]
  by_cases he : off ≥ p.length
  · rw [if_pos he]
  · simp only [if_neg he, sliceFrom, if_pos (Nat.le_of_not_ge he), hs.resolve_left he]

theorem packedLoop_go (h : nRead < l) (ho : off < p.length) {v : α} {n : Nat} (hel : el (p.drop off) = .ok (v, n)) (hn : n ≠ 0) :
    packedLoop el p l (k + 1) nRead off acc = packedLoop el p l k (nRead + n) (off + n) (v :: acc) := by
  rw [packedLoop, if_pos h, if_neg (Nat.not_le_of_lt ho)]
  simp only [sliceFrom, if_pos (Nat.le_of_lt ho), hel, if_neg hn]

variable (d : Dec) (mk : List α → Item)

theorem packed_stop (h : d.p.length ≤ d.off ∨ elVarint (d.p.drop d.off) = .err) : d.packed el mk none = (d, .err, 0) := by
  unfold Dec.packed Dec.len
  by_cases he : d.off ≥ d.p.length
  · rw [if_pos he]
  · simp only [if_neg he, sliceFrom, if_pos (Nat.le_of_not_ge he), h.resolve_left he]

theorem packed_run (h : d.off < d.p.length) {l n : Nat} (hl : elVarint (d.p.drop d.off) = .ok (l, n)) :
    d.packed el mk none = match packedLoop el d.p l (d.p.length + 1) 0 (d.off + n) [] with
      | (off2, .ok vs) => ({ d with off := off2 }, .ok (mk vs), vs.length)
      | (off2, .err) => ({ d with off := off2 }, .err, off2 - (d.off + n))
      | (off2, .panic) => ({ d with off := off2 }, .panic, 0) := by
  unfold Dec.packed Dec.len
  simp only [if_neg (Nat.not_le_of_lt h), sliceFrom, if_pos (Nat.le_of_lt h), hl]
  generalize packedLoop el d.p l (d.p.length + 1) 0 (d.off + n) [] = m
  obtain ⟨off2, r⟩ := m
  cases r <;> rfl

end

/-- what the loop of a packed reader works on (`ε` is the element type of its result slice): the receiver, the declared
    length of the run, the bytes read so far, the result slice; a state of the type the translator generated for a reader
    is looked at through a `view` into this -/
structure Cur (ε : Type) extends Recv where
  l : BitVec 64
  nRead : BitVec 64
  res : List ε

section
variable {σ ε α : Type}

/-- one run of the loop body from `s`, against the model's element reader `el`: either it returns an error with the
    view unchanged (end of input, or `el` rejects what is there), or `el` accepts `n` bytes as `conv w` and the body
    falls through with `w` appended and both counters advanced by `n` -/
inductive Step (view : σ → Cur ε) (conv : ε → α) (el : Bytes → Res (α × Nat)) (s : σ) : Go.Out σ (List ε × Go.Err) → Prop
  | stop {R e s'} (he : e ≠ .nil) (hv : view s' = view s)
      (h : (view s).frame.p.length ≤ (view s).off.toNat ∨ el (view s).rest = .err) : Step view conv el s (.ret (R, e) s')
  | go {w n s'} (hel : el (view s).rest = .ok (conv w, n.toNat)) (hpos : 0 < n.toNat)
      (hle : n.toNat ≤ (view s).frame.p.length - (view s).off.toNat)
      (hv : view s' = { view s with nRead := (view s).nRead + n, off := (view s).off + n, res := (view s).res ++ [w] }) :
      Step view conv el s (.next s')

/-- a finished run against the model's `(cursor, result)`: the reader returns, the frame is `fr`, the cursors agree,
    and so do acceptance and the list read -/
def Ends (view : σ → Cur ε) (conv : ε → α) (fr : Frame) (m : Nat × Res (List α)) (o : Go.Out σ (List ε × Go.Err)) : Prop :=
  ∃ R e s', o = .ret (R, e) s' ∧ (view s').frame = fr ∧ (view s').off.toNat = m.1 ∧
    match m.2 with
    | .ok vs => e = .nil ∧ R.map conv = vs
    | .err => e ≠ .nil
    | .panic => False

theorem add_toNat_le {a n : BitVec 64} {m : Nat} (hm : m < 2 ^ 62) (h : a.toNat + n.toNat ≤ m) :
    (a + n).toNat = a.toNat + n.toNat :=
  BitVec.toNat_add_of_lt (Nat.lt_of_le_of_lt h (Nat.lt_trans hm (by decide)))

/-- the arithmetic of one iteration that consumes `n > 0` of the `len - off` bytes left: the counters stay ordered
    and inside the buffer, and what is left drops below either fuel -/
theorem iter_arith {len off nRead n k g : Nat} (ho : off ≤ len) (hn : nRead ≤ off) (hpos : 0 < n) (hle : n ≤ len - off)
    (hk : len - off < k + 1) (hg : len - off < g + 1) :
    off < len ∧ off + n ≤ len ∧ nRead + n ≤ off + n ∧ len - (off + n) < k ∧ len - (off + n) < g :=
  have h0 : off < len := Nat.lt_of_sub_pos (Nat.lt_of_lt_of_le hpos hle)
  have h1 : len - (off + n) < len - off := Nat.sub_lt_sub_left h0 (Nat.lt_add_of_pos_right hpos)
  ⟨h0, Nat.add_le_of_le_sub' ho hle, Nat.add_le_add_right hn n, Nat.lt_of_lt_of_le h1 (Nat.le_of_lt_succ hk),
    Nat.lt_of_lt_of_le h1 (Nat.le_of_lt_succ hg)⟩

variable {view : σ → Cur ε} {conv : ε → α} {el : Bytes → Res (α × Nat)}
  {cond : σ → Option Bool} {body post t : σ → Go.Out σ (List ε × Go.Err)}

/-- **the loop of a translated packed reader, followed by its `nRead != l` test and final return `t`, against the
    model's `packedLoop`**: by induction on the model's fuel; the source's fuel `g` is enough because every iteration
    that falls through consumes a byte -/
theorem loop_sim (hcond : ∀ s, cond s = some (BitVec.ult (view s).nRead (view s).l)) (hpost : ∀ s, post s = .next s)
    (htail : ∀ s, t s = if (view s).nRead != (view s).l then .ret ([], .other "ErrInvalidPackedData") s
      else .ret ((view s).res, .nil) s)
    (hbody : ∀ s, (view s).frame.p.length < 2 ^ 63 → (view s).off.toNat ≤ (view s).frame.p.length →
      Step view conv el s (body s)) :
    ∀ (k : Nat) (c : Cur ε) (s : σ) (g : Nat) (acc : List α), view s = c → c.frame.p.length < 2 ^ 62 →
      c.off.toNat ≤ c.frame.p.length → c.nRead.toNat ≤ c.off.toNat →
      c.frame.p.length - c.off.toNat < k → c.frame.p.length - c.off.toNat < g → c.res.map conv = acc.reverse →
      Ends view conv c.frame (packedLoop el c.frame.p c.l.toNat k c.nRead.toNat c.off.toNat acc)
        (Go.seq (Go.loop cond body post g) t s) := by
  intro k
  induction k with
  | zero => intro c s g acc hc hp ho hn hk; exact absurd hk (Nat.not_lt_zero _)
  | succ k ih =>
    intro c s g acc hc hp ho hn hk hg hres
    cases g with
    | zero => exact absurd hg (Nat.not_lt_zero _)
    | succ g =>
    have hcs : cond s = some (decide (c.nRead.toNat < c.l.toNat)) := by rw [hcond, BitVec.ult_eq_decide, hc]
    by_cases hlt : c.nRead.toNat < c.l.toNat
    · rw [decide_eq_true hlt] at hcs
      have hb := hbody s (hc ▸ Nat.lt_trans hp (by decide)) (hc ▸ ho)
      generalize hbs : body s = o at hb
      cases hb with
      | stop he hv h =>
        rw [Go.seq_ret (Go.loop_ret hcs hbs ..), packedLoop_stop el _ _ _ _ _ _ hlt (hc ▸ h)]
        exact ⟨_, _, _, rfl, by rw [hv, hc], by rw [hv, hc], he⟩
      | @go w n s' hel hpos hle hv =>
        rw [hc] at hel hle hv
        obtain ⟨a0, a1, a2, a3, a4⟩ := iter_arith ho hn hpos hle hk hg
        have e1 := add_toNat_le hp a1
        have e2 := add_toNat_le hp (Nat.le_trans a2 a1)
        rw [Go.seq_congr (Go.loop_step hcs hbs (hpost s') g), packedLoop_go el _ _ _ _ _ _ hlt a0 hel (Nat.ne_of_gt hpos), ← e1, ← e2]
        rw [← e1] at a1 a3 a4
        rw [← e1, ← e2] at a2
        exact ih _ s' g (conv w :: acc) hv hp a1 a2 a3 a4 (by rw [List.map_append, hres, List.reverse_cons]; rfl)
    · rw [decide_eq_false hlt] at hcs
      rw [Go.seq_next (Go.loop_stop hcs ..), packedLoop_done el _ _ _ _ _ _ hlt, htail, bne_eq_decide_toNat, hc]
      by_cases hne : c.nRead.toNat ≠ c.l.toNat
      · rw [if_pos hne, if_pos (decide_eq_true hne)]
        exact ⟨_, _, _, rfl, by rw [hc], by rw [hc], Go.Err.noConfusion⟩
      · rw [if_neg hne, if_neg (mt of_decide_eq_true hne)]
        exact ⟨_, _, _, rfl, by rw [hc], by rw [hc], rfl, hres⟩

/-- a body that is: end-of-input test; the call, `(n, e)`; its two error returns; the range test `rej`; the three
    updates — with `s1`, `s1'`, `s2` the states at the returns and at the end -/
theorem Step.of_chain {s s1 s2 : σ} {w : ε} {n : BitVec 64} {e : Go.Err} {rej : Bool} {o : Go.Out σ (List ε × Go.Err)}
    (hp : (view s).frame.p.length < 2 ^ 63) (hle : (view s).off.toNat ≤ (view s).frame.p.length)
    (hel : Elem el conv (view s).rest w n e rej) (s1' : σ := s1)
    (ho : o = if BitVec.sle (BitVec.ofNat 64 (view s).frame.p.length) (view s).off then .ret ([], .unexpectedEOF) s
      else if e != .nil then .ret ([], e) s1 else if n == 0#64 then .ret ([], .invalidVarint) s1
      else if rej then .ret ([], .overflow) s1' else .next s2)
    (h1 : view s1 = view s) (h1' : view s1' = view s)
    (h2 : view s2 = { view s with nRead := (view s).nRead + n, off := (view s).off + n, res := (view s).res ++ [w] }) :
    Step view conv el s o := by
  subst ho
  rw [eof_test _ _ hp hle]
  by_cases heof : (view s).frame.p.length ≤ (view s).off.toNat
  · rw [if_pos (decide_eq_true heof)]
    exact .stop Go.Err.noConfusion rfl (.inl heof)
  · rw [if_neg (mt of_decide_eq_true heof)]
    exact hel.ite (P := Step view conv el s) (fun he hq => .stop he h1 (.inr hq))
      (fun hq => .stop Go.Err.noConfusion h1' (.inr hq)) (fun hq hpos hlen => .go hq hpos (List.length_drop ▸ hlen) h2)

/-- what follows the loop in every packed reader: the `nRead != l` test and the final return -/
def tailOf (view : σ → Cur ε) : σ → Go.Out σ (List ε × Go.Err) :=
  Go.seq (fun s => if (view s).nRead != (view s).l then .ret ([], .other "ErrInvalidPackedData") s else Go.skip s)
    (Go.seq (fun s => .ret ((view s).res, .nil) s) Go.missingReturn)

theorem tailOf_eq (view : σ → Cur ε) (s : σ) : tailOf view s =
    if (view s).nRead != (view s).l then .ret ([], .other "ErrInvalidPackedData") s else .ret ((view s).res, .nil) s := by
  rw [tailOf, Go.seq_guard]; rfl

/-- a returned `out` against the result `x` of a step of the model: the frame is `fr`, acceptance, the list read and
    the cursor agree, and the model does not panic -/
def Refines (view : σ → Cur ε) (conv : ε → α) (mk : List α → Item) (fr : Frame) (x : Dec × DecOut × Nat)
    (out : Go.Out σ (List ε × Go.Err)) : Prop :=
  ∃ R e s, out = .ret (R, e) s ∧ (view s).frame = fr ∧
    ((∃ d' vs c, x = (d', .ok (mk vs), c) ∧ e = .nil ∧ R.map conv = vs ∧ (view s).off.toNat = d'.off) ∨
     (∃ d' c, x = (d', .err, c) ∧ e ≠ .nil ∧ (view s).off.toNat = d'.off))

/-- **a translated packed reader refines `Dec.packed`**, given what its loop body does (`Step`) and that the method
    is: end-of-input test; the length prefix `(l, n, e)` by the translated `DecodeVarint`; its two error returns; the
    loop from a state `s2` with the cursor past the prefix; the tail -/
theorem packed_refines {mk : List α → Item} {fuel : Nat} {fr : Frame} {off : BitVec 64} {fast : Bool} {l n : BitVec 64}
    {e : Go.Err} {s0 s1 s2 : σ} {out : Go.Out σ (List ε × Go.Err)}
    (hbody : ∀ s, (view s).frame.p.length < 2 ^ 63 → (view s).off.toNat ≤ (view s).frame.p.length →
      Step view conv el s (body s))
    (hcond : ∀ s, cond s = some (BitVec.ult (view s).nRead (view s).l)) (hpost : ∀ s, post s = .next s)
    (hp : fr.p.length < 2 ^ 62) (hfl : fr.p.length + 2 ≤ fuel) (hoff : off.toNat ≤ fr.p.length)
    (hel : Elem elVarint BitVec.toNat (fr.p.drop off.toNat) l n e false)
    (hout : out = if BitVec.sle (BitVec.ofNat 64 fr.p.length) off then .ret ([], .unexpectedEOF) s0
      else if e != .nil then .ret ([], e) s1 else if n == 0#64 then .ret ([], .invalidVarint) s1
      else Go.seq (Go.loop cond body post fuel) (tailOf view) s2)
    (h0 : view s0 = ⟨⟨fr, off⟩, 0#64, 0#64, []⟩) (h1 : view s1 = ⟨⟨fr, off⟩, l, 0#64, []⟩)
    (h2 : view s2 = ⟨⟨fr, off + n⟩, l, 0#64, []⟩) :
    Refines view conv mk fr ((decOf fr.p off fr.ks fr.ke fast).packed el mk none) out := by
  subst hout
  rw [eof_test fr.p off (Nat.lt_trans hp (by decide)) hoff]
  by_cases heof : fr.p.length ≤ off.toNat
  · rw [if_pos (decide_eq_true heof)]
    exact ⟨_, _, _, rfl, by rw [h0], .inr ⟨_, _, packed_stop el _ mk (.inl heof), Go.Err.noConfusion, by rw [h0]; rfl⟩⟩
  · rw [if_neg (mt of_decide_eq_true heof)]
    cases hel with
    | ok hpos hlen hq =>
      rw [List.length_drop] at hlen
      rw [ite_nil_pos hpos, packed_run el _ mk (Nat.lt_of_not_ge heof) hq]
      have hle := Nat.add_le_of_le_sub' hoff hlen
      have hs := add_toNat_le hp hle
      rw [← hs] at hle
      have b2 : fr.p.length - (off + n).toNat < fr.p.length + 1 := Nat.lt_succ_of_le (Nat.sub_le _ _)
      have b3 : fr.p.length - (off + n).toNat < fuel :=
        Nat.lt_of_le_of_lt (Nat.sub_le _ _) (Nat.lt_of_lt_of_le (Nat.lt_add_of_pos_right (by decide)) hfl)
      have hL : Ends view conv fr (packedLoop el fr.p l.toNat (fr.p.length + 1) 0 (off + n).toNat [])
          (Go.seq (Go.loop cond body post fuel) (tailOf view) s2) :=
        loop_sim hcond hpost (tailOf_eq view) hbody (fr.p.length + 1) _ s2 fuel [] h2 hp hle (Nat.zero_le _) b2 b3 rfl
      rw [hs] at hL
      obtain ⟨R, e, s', ho, hfr, hoff', hm⟩ := hL
      revert hoff' hm
      show ∀ _ _, Refines view conv mk fr (match packedLoop el fr.p l.toNat (fr.p.length + 1) 0 (off.toNat + n.toNat) [] with
        | (off2, .ok vs) => _ | (off2, .err) => _ | (off2, .panic) => _) _
      generalize packedLoop el fr.p l.toNat (fr.p.length + 1) 0 (off.toNat + n.toNat) [] = m
      obtain ⟨off2, r⟩ := m
      intro hoff' hm
      cases r with
      | ok vs => exact ⟨R, e, s', ho, hfr, .inl ⟨_, vs, _, rfl, hm.1, hm.2, hoff'⟩⟩
      | err => exact ⟨R, e, s', ho, hfr, .inr ⟨_, _, rfl, hm, hoff'⟩⟩
      | panic => exact hm.elim
    | err he hq =>
      rw [if_pos (bne_iff_ne.mpr he)]
      exact ⟨_, _, _, rfl, by rw [h1], .inr ⟨_, _, packed_stop el _ mk (.inr hq), he, by rw [h1]; rfl⟩⟩

theorem Refines.off_le {mk : List α → Item} {fr : Frame} {x : Dec × DecOut × Nat} {out : Go.Out σ (List ε × Go.Err)} {m : Nat}
    (h : Refines view conv mk fr x out) (hx : x.1.off ≤ m) : ∃ R e s, out = .ret (R, e) s ∧ (view s).off.toNat ≤ m := by
  obtain ⟨R, e, s, ho, _, hm⟩ := h
  refine ⟨R, e, s, ho, ?_⟩
  rcases hm with ⟨d', vs, c, rfl, _, _, h⟩ | ⟨d', c, rfl, _, h⟩ <;> exact h ▸ hx

/-- `Refines` in the form the nine refinement theorems are stated in. `C R e s` is their last conjunct, a `match` on the
    model's step `x` with an arm for `(d', .ok (mk vs), _)`, an arm for `(d', .err, _)` and `False` otherwise. That `match` is
    on a constructor of `Item` (a pattern cannot be the variable `mk`), so here `C` is a variable and `hC`, which ties it to
    the two cases of `Refines`, is proved at each call `(X_sim …).elim` by the default: in either case `x` inside `C` is
    rewritten by the case's equation `hx`, the `match` reduces to the arm for that step, and the arm is what is left of the
    case. -/
theorem Refines.elim {mk : List α → Item} {fr : Frame} {x : Dec × DecOut × Nat} {out : Go.Out σ (List ε × Go.Err)}
    {C : List ε → Go.Err → σ → Prop} (h : Refines view conv mk fr x out)
    (hC : ∀ R e s,
      ((∃ d' vs c, x = (d', .ok (mk vs), c) ∧ e = .nil ∧ R.map conv = vs ∧ (view s).off.toNat = d'.off) ∨
       (∃ d' c, x = (d', .err, c) ∧ e ≠ .nil ∧ (view s).off.toNat = d'.off)) → C R e s := by
      rintro R e s (⟨d', vs, c, hx, h⟩ | ⟨d', c, hx, h⟩)
      · rw [hx]
        exact h
      · rw [hx]
        exact h) :
    ∃ R e s, out = .ret (R, e) s ∧ (view s).frame.p = fr.p ∧ (view s).frame.mode = fr.mode ∧ (view s).frame.ks = fr.ks ∧
      (view s).frame.ke = fr.ke ∧ C R e s := by
  obtain ⟨R, e, s, ho, rfl, hm⟩ := h
  exact ⟨R, e, s, ho, rfl, rfl, rfl, rfl, hC R e s hm⟩

end

abbrev DecodePackedUint64_view (s : Decoder_DecodePackedUint64.St) : Cur (BitVec 64) :=
  ⟨⟨⟨s.d_p, s.d_mode, s.d_keyStart, s.d_keyEnd⟩, s.d_offset⟩, s.l, s.nRead, s.res⟩

theorem DecodePackedUint64_step (fuel : Nat) (hf : 11 ≤ fuel) (s : Decoder_DecodePackedUint64.St) (hp : s.d_p.length < 2 ^ 63)
    (hle : s.d_offset.toNat ≤ s.d_p.length) :
    Step DecodePackedUint64_view BitVec.toNat elVarint s (Decoder_DecodePackedUint64.loop1.body fuel s) := by
  obtain ⟨v, n, e, c, hd, hel⟩ := elem_varint fuel hf s.d_p s.d_offset.toNat hp
  apply Step.of_chain hp hle hel
  · simp only [Decoder_DecodePackedUint64.loop1.body, ↓Go.seq_guard, Go.seq, hle, hd, if_true]; rfl
  all_goals rfl

abbrev DecodePackedInt64_view (s : Decoder_DecodePackedInt64.St) : Cur (BitVec 64) :=
  ⟨⟨⟨s.d_p, s.d_mode, s.d_keyStart, s.d_keyEnd⟩, s.d_offset⟩, s.l, s.nRead, s.res⟩

theorem DecodePackedInt64_step (fuel : Nat) (hf : 11 ≤ fuel) (s : Decoder_DecodePackedInt64.St) (hp : s.d_p.length < 2 ^ 63)
    (hle : s.d_offset.toNat ≤ s.d_p.length) :
    Step DecodePackedInt64_view BitVec.toInt elInt64 s (Decoder_DecodePackedInt64.loop1.body fuel s) := by
  obtain ⟨v, n, e, c, hd, hel⟩ := elem_varint fuel hf s.d_p s.d_offset.toNat hp
  apply Step.of_chain hp hle hel.int64
  · simp only [Decoder_DecodePackedInt64.loop1.body, ↓Go.seq_guard, Go.seq, hle, hd, if_true]; rfl
  all_goals rfl

abbrev DecodePackedSint64_view (s : Decoder_DecodePackedSint64.St) : Cur (BitVec 64) :=
  ⟨⟨⟨s.d_p, s.d_mode, s.d_keyStart, s.d_keyEnd⟩, s.d_offset⟩, s.l, s.nRead, s.res⟩

theorem DecodePackedSint64_step (fuel : Nat) (hf : 11 ≤ fuel) (s : Decoder_DecodePackedSint64.St) (hp : s.d_p.length < 2 ^ 63)
    (hle : s.d_offset.toNat ≤ s.d_p.length) :
    Step DecodePackedSint64_view BitVec.toInt elSint64 s (Decoder_DecodePackedSint64.loop1.body fuel s) := by
  obtain ⟨v, n, e, c, hd, hel⟩ := Elem.of_reads (reads_zigzag64 fuel hf) s.d_p s.d_offset.toNat hp
  apply Step.of_chain hp hle hel
  · simp only [Decoder_DecodePackedSint64.loop1.body, ↓Go.seq_guard, Go.seq, hle, hd, if_true]; rfl
  all_goals rfl

abbrev DecodePackedSint32_view (s : Decoder_DecodePackedSint32.St) : Cur (BitVec 32) :=
  ⟨⟨⟨s.d_p, s.d_mode, s.d_keyStart, s.d_keyEnd⟩, s.d_offset⟩, s.l, s.nRead, s.res⟩

theorem DecodePackedSint32_step (fuel : Nat) (hf : 11 ≤ fuel) (s : Decoder_DecodePackedSint32.St) (hp : s.d_p.length < 2 ^ 63)
    (hle : s.d_offset.toNat ≤ s.d_p.length) :
    Step DecodePackedSint32_view BitVec.toInt elSint32 s (Decoder_DecodePackedSint32.loop1.body fuel s) := by
  obtain ⟨v, n, e, c, hd, hel⟩ := Elem.of_reads (reads_zigzag32 fuel hf) s.d_p s.d_offset.toNat hp
  apply Step.of_chain hp hle hel
  · simp only [Decoder_DecodePackedSint32.loop1.body, ↓Go.seq_guard, Go.seq, hle, hd, if_true]; rfl
  all_goals rfl

/- `DecodePackedUint32` and `DecodePackedInt32` test the range of the element before any update: `s1'` is the state at that
   return. -/

abbrev DecodePackedUint32_view (s : Decoder_DecodePackedUint32.St) : Cur (BitVec 32) :=
  ⟨⟨⟨s.d_p, s.d_mode, s.d_keyStart, s.d_keyEnd⟩, s.d_offset⟩, s.l, s.nRead, s.res⟩

theorem DecodePackedUint32_step (fuel : Nat) (hf : 11 ≤ fuel) (s : Decoder_DecodePackedUint32.St) (hp : s.d_p.length < 2 ^ 63)
    (hle : s.d_offset.toNat ≤ s.d_p.length) :
    Step DecodePackedUint32_view BitVec.toNat elUint32 s (Decoder_DecodePackedUint32.loop1.body fuel s) := by
  obtain ⟨v, n, e, c, hd, hel⟩ := elem_varint fuel hf s.d_p s.d_offset.toNat hp
  apply Step.of_chain hp hle hel.uint32 (s1' := _)
  · simp only [Decoder_DecodePackedUint32.loop1.body, ↓Go.seq_guard, Go.seq, hle, hd, if_true]; rfl
  all_goals rfl

abbrev DecodePackedInt32_view (s : Decoder_DecodePackedInt32.St) : Cur (BitVec 32) :=
  ⟨⟨⟨s.d_p, s.d_mode, s.d_keyStart, s.d_keyEnd⟩, s.d_offset⟩, s.l, s.nRead, s.res⟩

theorem DecodePackedInt32_step (fuel : Nat) (hf : 11 ≤ fuel) (s : Decoder_DecodePackedInt32.St) (hp : s.d_p.length < 2 ^ 63)
    (hle : s.d_offset.toNat ≤ s.d_p.length) :
    Step DecodePackedInt32_view BitVec.toInt elInt32 s (Decoder_DecodePackedInt32.loop1.body fuel s) := by
  obtain ⟨v, n, e, c, hd, hel⟩ := elem_varint fuel hf s.d_p s.d_offset.toNat hp
  apply Step.of_chain hp hle hel.int32 (s1' := _)
  · simp only [Decoder_DecodePackedInt32.loop1.body, ↓Go.seq_assoc, ↓Go.seq_guard, Go.seq, hle, hd, if_true]; rfl
  all_goals rfl

abbrev DecodePackedFixed64_view (s : Decoder_DecodePackedFixed64.St) : Cur (BitVec 64) :=
  ⟨⟨⟨s.d_p, s.d_mode, s.d_keyStart, s.d_keyEnd⟩, s.d_offset⟩, s.l, s.nRead, s.res⟩

theorem DecodePackedFixed64_step (fuel : Nat) (s : Decoder_DecodePackedFixed64.St) (hp : s.d_p.length < 2 ^ 63)
    (hle : s.d_offset.toNat ≤ s.d_p.length) :
    Step DecodePackedFixed64_view BitVec.toNat elFixed64 s (Decoder_DecodePackedFixed64.loop1.body fuel s) := by
  obtain ⟨v, n, e, c, hd, hel⟩ := Elem.of_reads (reads_fixed64 fuel) s.d_p s.d_offset.toNat hp
  apply Step.of_chain hp hle hel
  · simp only [Decoder_DecodePackedFixed64.loop1.body, ↓Go.seq_guard, Go.seq, hle, hd, if_true]; rfl
  all_goals rfl

abbrev DecodePackedFixed32_view (s : Decoder_DecodePackedFixed32.St) : Cur (BitVec 32) :=
  ⟨⟨⟨s.d_p, s.d_mode, s.d_keyStart, s.d_keyEnd⟩, s.d_offset⟩, s.l, s.nRead, s.res⟩

theorem DecodePackedFixed32_step (fuel : Nat) (s : Decoder_DecodePackedFixed32.St) (hp : s.d_p.length < 2 ^ 63)
    (hle : s.d_offset.toNat ≤ s.d_p.length) :
    Step DecodePackedFixed32_view BitVec.toNat elFixed32 s (Decoder_DecodePackedFixed32.loop1.body fuel s) := by
  obtain ⟨v, n, e, c, hd, hel⟩ := Elem.of_reads (reads_fixed32 fuel) s.d_p s.d_offset.toNat hp
  apply Step.of_chain hp hle hel
  · simp only [Decoder_DecodePackedFixed32.loop1.body, ↓Go.seq_guard, Go.seq, hle, hd, if_true]; rfl
  all_goals rfl

abbrev DecodePackedBool_view (s : Decoder_DecodePackedBool.St) : Cur Bool :=
  ⟨⟨⟨s.d_p, s.d_mode, s.d_keyStart, s.d_keyEnd⟩, s.d_offset⟩, s.l, s.nRead, s.res⟩

theorem DecodePackedBool_step (fuel : Nat) (hf : 11 ≤ fuel) (s : Decoder_DecodePackedBool.St) (hp : s.d_p.length < 2 ^ 63)
    (hle : s.d_offset.toNat ≤ s.d_p.length) :
    Step DecodePackedBool_view id elBool s (Decoder_DecodePackedBool.loop1.body fuel s) := by
  obtain ⟨v, n, e, c, hd, hel⟩ := elem_varint fuel hf s.d_p s.d_offset.toNat hp
  apply Step.of_chain hp hle hel.bool
  · simp only [Decoder_DecodePackedBool.loop1.body, ↓Go.seq_guard, Go.seq, hle, hd, if_true]; rfl
  all_goals rfl

/-! The loop of `DecodePackedUint64` on its generated state type, without a view: an instance of `loop_sim`. -/

abbrev PS := Decoder_DecodePackedUint64.St
abbrev PR := Decoder_DecodePackedUint64.R

/-- what follows the loop: the `nRead != l` test and the final return -/
def tail : PS → Go.Out PS PR :=
  Go.seq (fun s => if (s.nRead != s.l) then (fun s => .ret (([] : List (BitVec 64)), (Go.Err.other "ErrInvalidPackedData")) s) s else Go.skip s)
    (fun s => .ret (s.res, Go.Err.nil) s)

def L (fuel g : Nat) : PS → Go.Out PS PR :=
  Go.loop Decoder_DecodePackedUint64.loop1.cond (Decoder_DecodePackedUint64.loop1.body fuel) Decoder_DecodePackedUint64.loop1.post g

/-- the relation between a loop state of the translation and the arguments of the model's `packedLoop` -/
structure Rel (p : Bytes) (l mode ks ke : BitVec 64) (nRead off : Nat) (acc : List Nat) (s : PS) : Prop where
  p : s.d_p = p
  l : s.l = l
  mode : s.d_mode = mode
  ks : s.d_keyStart = ks
  ke : s.d_keyEnd = ke
  nRead : s.nRead.toNat = nRead
  off : s.d_offset.toNat = off
  res : s.res.map (·.toNat) = acc.reverse

/-- what a finished run of loop + tail amounts to -/
def Outcome (p : Bytes) (mode ks ke : BitVec 64) (m : Nat × Res (List Nat)) (o : Go.Out PS PR) : Prop :=
  match m with
  | (off2, .ok vs) => ∃ R s', o = .ret (R, .nil) s' ∧ R.map (·.toNat) = vs ∧ s'.d_offset.toNat = off2 ∧
      s'.d_p = p ∧ s'.d_mode = mode ∧ s'.d_keyStart = ks ∧ s'.d_keyEnd = ke
  | (off2, .err) => ∃ R e s', o = .ret (R, e) s' ∧ e ≠ .nil ∧ s'.d_offset.toNat = off2 ∧
      s'.d_p = p ∧ s'.d_mode = mode ∧ s'.d_keyStart = ks ∧ s'.d_keyEnd = ke
  | (_, .panic) => False

theorem loop_eq (fuel : Nat) (hf : 11 ≤ fuel) (p : Bytes) (l mode ks ke : BitVec 64) (hp : p.length < 2 ^ 62) :
    ∀ (k nRead off : Nat) (acc : List Nat) (s : PS) (g : Nat), Rel p l mode ks ke nRead off acc s →
      off ≤ p.length → nRead ≤ off → p.length - off < k → p.length - off < g →
      Outcome p mode ks ke (packedLoop elVarint p l.toNat k nRead off acc) (Go.seq (L fuel g) tail s) := by
  intro k nRead off acc s g hr ho hn hk hg
  obtain ⟨rfl, rfl, rfl, rfl, rfl, rfl, rfl, hres⟩ := hr
  have h : Ends DecodePackedUint64_view BitVec.toNat ⟨s.d_p, s.d_mode, s.d_keyStart, s.d_keyEnd⟩
      (packedLoop elVarint s.d_p s.l.toNat k s.nRead.toNat s.d_offset.toNat acc) (Go.seq (L fuel g) tail s) :=
    loop_sim (fun _ => rfl) (fun _ => rfl) (fun s => by rw [tail, Go.seq_guard]) (DecodePackedUint64_step fuel hf) k _ s g acc rfl
      hp ho hn hk hg hres
  revert h
  generalize packedLoop elVarint s.d_p s.l.toNat k s.nRead.toNat s.d_offset.toNat acc = m
  rintro ⟨R, e, s', hr, hfr, hoff, hm⟩
  obtain ⟨h1, h2, h3, h4⟩ := Frame.mk.inj hfr
  rw [hr]
  obtain ⟨off2, r⟩ := m
  cases r with
  | ok vs => exact ⟨R, s', by rw [hm.1], hm.2, hoff, h1, h2, h3, h4⟩
  | err => exact ⟨R, e, s', rfl, hm, hoff, h1, h2, h3, h4⟩
  | panic => exact hm

section
variable (fuel : Nat) (hf : 11 ≤ fuel) (p : Bytes) (off mode ks ke : BitVec 64) (fast : Bool)
  (hp : p.length < 2 ^ 62) (hfl : p.length + 2 ≤ fuel) (hoff : off.toNat ≤ p.length)
include hf hp hfl hoff

theorem DecodePackedUint64_sim : Refines DecodePackedUint64_view BitVec.toNat .nats ⟨p, mode, ks, ke⟩
    ((decOf p off ks ke fast).step .packedUint64) (Decoder_DecodePackedUint64 fuel p off mode ks ke) := by
  obtain ⟨l, n, e, c, hd, hel⟩ := elem_varint fuel hf p off.toNat (Nat.lt_trans hp (by decide))
  apply packed_refines (DecodePackedUint64_step fuel hf) (fun _ => rfl) (fun _ => rfl) hp hfl hoff hel
  · simp only [Decoder_DecodePackedUint64, Decoder_DecodePackedUint64.body, ↓Go.seq_assoc, ↓Go.seq_skip, ↓Go.seq_guard, Go.seq, hoff, hd,
      if_true]; rfl
  all_goals rfl

theorem DecodePackedInt64_sim : Refines DecodePackedInt64_view BitVec.toInt .ints ⟨p, mode, ks, ke⟩
    ((decOf p off ks ke fast).step .packedInt64) (Decoder_DecodePackedInt64 fuel p off mode ks ke) := by
  obtain ⟨l, n, e, c, hd, hel⟩ := elem_varint fuel hf p off.toNat (Nat.lt_trans hp (by decide))
  apply packed_refines (DecodePackedInt64_step fuel hf) (fun _ => rfl) (fun _ => rfl) hp hfl hoff hel
  · simp only [Decoder_DecodePackedInt64, Decoder_DecodePackedInt64.body, ↓Go.seq_assoc, ↓Go.seq_skip, ↓Go.seq_guard, Go.seq, hoff, hd,
      if_true]; rfl
  all_goals rfl

theorem DecodePackedSint64_sim : Refines DecodePackedSint64_view BitVec.toInt .ints ⟨p, mode, ks, ke⟩
    ((decOf p off ks ke fast).step .packedSint64) (Decoder_DecodePackedSint64 fuel p off mode ks ke) := by
  obtain ⟨l, n, e, c, hd, hel⟩ := elem_varint fuel hf p off.toNat (Nat.lt_trans hp (by decide))
  apply packed_refines (DecodePackedSint64_step fuel hf) (fun _ => rfl) (fun _ => rfl) hp hfl hoff hel
  · simp only [Decoder_DecodePackedSint64, Decoder_DecodePackedSint64.body, ↓Go.seq_assoc, ↓Go.seq_skip, ↓Go.seq_guard, Go.seq, hoff, hd,
      if_true]; rfl
  all_goals rfl

theorem DecodePackedSint32_sim : Refines DecodePackedSint32_view BitVec.toInt .ints ⟨p, mode, ks, ke⟩
    ((decOf p off ks ke fast).step .packedSint32) (Decoder_DecodePackedSint32 fuel p off mode ks ke) := by
  obtain ⟨l, n, e, c, hd, hel⟩ := elem_varint fuel hf p off.toNat (Nat.lt_trans hp (by decide))
  apply packed_refines (DecodePackedSint32_step fuel hf) (fun _ => rfl) (fun _ => rfl) hp hfl hoff hel
  · simp only [Decoder_DecodePackedSint32, Decoder_DecodePackedSint32.body, ↓Go.seq_assoc, ↓Go.seq_skip, ↓Go.seq_guard, Go.seq, hoff, hd,
      if_true]; rfl
  all_goals rfl

theorem DecodePackedUint32_sim : Refines DecodePackedUint32_view BitVec.toNat .nats ⟨p, mode, ks, ke⟩
    ((decOf p off ks ke fast).step .packedUint32) (Decoder_DecodePackedUint32 fuel p off mode ks ke) := by
  obtain ⟨l, n, e, c, hd, hel⟩ := elem_varint fuel hf p off.toNat (Nat.lt_trans hp (by decide))
  apply packed_refines (DecodePackedUint32_step fuel hf) (fun _ => rfl) (fun _ => rfl) hp hfl hoff hel
  · simp only [Decoder_DecodePackedUint32, Decoder_DecodePackedUint32.body, ↓Go.seq_assoc, ↓Go.seq_skip, ↓Go.seq_guard, Go.seq, hoff, hd,
      if_true]; rfl
  all_goals rfl

theorem DecodePackedInt32_sim : Refines DecodePackedInt32_view BitVec.toInt .ints ⟨p, mode, ks, ke⟩
    ((decOf p off ks ke fast).step .packedInt32) (Decoder_DecodePackedInt32 fuel p off mode ks ke) := by
  obtain ⟨l, n, e, c, hd, hel⟩ := elem_varint fuel hf p off.toNat (Nat.lt_trans hp (by decide))
  apply packed_refines (DecodePackedInt32_step fuel hf) (fun _ => rfl) (fun _ => rfl) hp hfl hoff hel
  · simp only [Decoder_DecodePackedInt32, Decoder_DecodePackedInt32.body, ↓Go.seq_assoc, ↓Go.seq_skip, ↓Go.seq_guard, Go.seq, hoff, hd,
      if_true]; rfl
  all_goals rfl

theorem DecodePackedFixed64_sim : Refines DecodePackedFixed64_view BitVec.toNat .nats ⟨p, mode, ks, ke⟩
    ((decOf p off ks ke fast).step .packedFixed64) (Decoder_DecodePackedFixed64 fuel p off mode ks ke) := by
  obtain ⟨l, n, e, c, hd, hel⟩ := elem_varint fuel hf p off.toNat (Nat.lt_trans hp (by decide))
  apply packed_refines (DecodePackedFixed64_step fuel) (fun _ => rfl) (fun _ => rfl) hp hfl hoff hel
  · simp only [Decoder_DecodePackedFixed64, Decoder_DecodePackedFixed64.body, ↓Go.seq_assoc, ↓Go.seq_skip, ↓Go.seq_guard, Go.seq, hoff, hd,
      if_true]; rfl
  all_goals rfl

theorem DecodePackedFixed32_sim : Refines DecodePackedFixed32_view BitVec.toNat .nats ⟨p, mode, ks, ke⟩
    ((decOf p off ks ke fast).step .packedFixed32) (Decoder_DecodePackedFixed32 fuel p off mode ks ke) := by
  obtain ⟨l, n, e, c, hd, hel⟩ := elem_varint fuel hf p off.toNat (Nat.lt_trans hp (by decide))
  apply packed_refines (DecodePackedFixed32_step fuel) (fun _ => rfl) (fun _ => rfl) hp hfl hoff hel
  · simp only [Decoder_DecodePackedFixed32, Decoder_DecodePackedFixed32.body, ↓Go.seq_assoc, ↓Go.seq_skip, ↓Go.seq_guard, Go.seq, hoff, hd,
      if_true]; rfl
  all_goals rfl

theorem DecodePackedBool_sim : Refines DecodePackedBool_view id .bools ⟨p, mode, ks, ke⟩
    ((decOf p off ks ke fast).step .packedBool) (Decoder_DecodePackedBool fuel p off mode ks ke) := by
  obtain ⟨l, n, e, c, hd, hel⟩ := elem_varint fuel hf p off.toNat (Nat.lt_trans hp (by decide))
  apply packed_refines (DecodePackedBool_step fuel hf) (fun _ => rfl) (fun _ => rfl) hp hfl hoff hel
  · simp only [Decoder_DecodePackedBool, Decoder_DecodePackedBool.body, ↓Go.seq_assoc, ↓Go.seq_skip, ↓Go.seq_guard, Go.seq, hoff, hd,
      if_true]; rfl
  all_goals rfl

end

/-- **Each `(*Decoder).DecodePackedX` of the source refines `Dec.step .packedX`**: for every buffer, in-range cursor and fuel
    `len + 2` they agree on acceptance, on the element list and on the cursor; the method never panics. -/
theorem DecodePackedUint64_refines (fuel : Nat) (hf : 11 ≤ fuel) (p : Bytes) (off mode ks ke : BitVec 64) (fast : Bool)
    (hp : p.length < 2 ^ 62) (hfl : p.length + 2 ≤ fuel) (hoff : off.toNat ≤ p.length) :
    ∃ R e s, Decoder_DecodePackedUint64 fuel p off mode ks ke = .ret (R, e) s ∧
      s.d_p = p ∧ s.d_mode = mode ∧ s.d_keyStart = ks ∧ s.d_keyEnd = ke ∧
      (match ((decOf p off ks ke fast).step .packedUint64) with
       | (d', .ok (.nats vs), _) => e = .nil ∧ R.map (·.toNat) = vs ∧ s.d_offset.toNat = d'.off
       | (d', .err, _) => e ≠ .nil ∧ s.d_offset.toNat = d'.off
       | _ => False) :=
  (DecodePackedUint64_sim fuel hf p off mode ks ke fast hp hfl hoff).elim

theorem DecodePackedInt64_refines (fuel : Nat) (hf : 11 ≤ fuel) (p : Bytes) (off mode ks ke : BitVec 64) (fast : Bool)
    (hp : p.length < 2 ^ 62) (hfl : p.length + 2 ≤ fuel) (hoff : off.toNat ≤ p.length) :
    ∃ R e s, Decoder_DecodePackedInt64 fuel p off mode ks ke = .ret (R, e) s ∧
      s.d_p = p ∧ s.d_mode = mode ∧ s.d_keyStart = ks ∧ s.d_keyEnd = ke ∧
      (match ((decOf p off ks ke fast).step .packedInt64) with
       | (d', .ok (.ints vs), _) => e = .nil ∧ R.map (·.toInt) = vs ∧ s.d_offset.toNat = d'.off
       | (d', .err, _) => e ≠ .nil ∧ s.d_offset.toNat = d'.off
       | _ => False) :=
  (DecodePackedInt64_sim fuel hf p off mode ks ke fast hp hfl hoff).elim

theorem DecodePackedSint64_refines (fuel : Nat) (hf : 11 ≤ fuel) (p : Bytes) (off mode ks ke : BitVec 64) (fast : Bool)
    (hp : p.length < 2 ^ 62) (hfl : p.length + 2 ≤ fuel) (hoff : off.toNat ≤ p.length) :
    ∃ R e s, Decoder_DecodePackedSint64 fuel p off mode ks ke = .ret (R, e) s ∧
      s.d_p = p ∧ s.d_mode = mode ∧ s.d_keyStart = ks ∧ s.d_keyEnd = ke ∧
      (match ((decOf p off ks ke fast).step .packedSint64) with
       | (d', .ok (.ints vs), _) => e = .nil ∧ R.map (·.toInt) = vs ∧ s.d_offset.toNat = d'.off
       | (d', .err, _) => e ≠ .nil ∧ s.d_offset.toNat = d'.off
       | _ => False) :=
  (DecodePackedSint64_sim fuel hf p off mode ks ke fast hp hfl hoff).elim

theorem DecodePackedSint32_refines (fuel : Nat) (hf : 11 ≤ fuel) (p : Bytes) (off mode ks ke : BitVec 64) (fast : Bool)
    (hp : p.length < 2 ^ 62) (hfl : p.length + 2 ≤ fuel) (hoff : off.toNat ≤ p.length) :
    ∃ R e s, Decoder_DecodePackedSint32 fuel p off mode ks ke = .ret (R, e) s ∧
      s.d_p = p ∧ s.d_mode = mode ∧ s.d_keyStart = ks ∧ s.d_keyEnd = ke ∧
      (match ((decOf p off ks ke fast).step .packedSint32) with
       | (d', .ok (.ints vs), _) => e = .nil ∧ R.map (·.toInt) = vs ∧ s.d_offset.toNat = d'.off
       | (d', .err, _) => e ≠ .nil ∧ s.d_offset.toNat = d'.off
       | _ => False) :=
  (DecodePackedSint32_sim fuel hf p off mode ks ke fast hp hfl hoff).elim

theorem DecodePackedUint32_refines (fuel : Nat) (hf : 11 ≤ fuel) (p : Bytes) (off mode ks ke : BitVec 64) (fast : Bool)
    (hp : p.length < 2 ^ 62) (hfl : p.length + 2 ≤ fuel) (hoff : off.toNat ≤ p.length) :
    ∃ R e s, Decoder_DecodePackedUint32 fuel p off mode ks ke = .ret (R, e) s ∧
      s.d_p = p ∧ s.d_mode = mode ∧ s.d_keyStart = ks ∧ s.d_keyEnd = ke ∧
      (match ((decOf p off ks ke fast).step .packedUint32) with
       | (d', .ok (.nats vs), _) => e = .nil ∧ R.map (·.toNat) = vs ∧ s.d_offset.toNat = d'.off
       | (d', .err, _) => e ≠ .nil ∧ s.d_offset.toNat = d'.off
       | _ => False) :=
  (DecodePackedUint32_sim fuel hf p off mode ks ke fast hp hfl hoff).elim

theorem DecodePackedInt32_refines (fuel : Nat) (hf : 11 ≤ fuel) (p : Bytes) (off mode ks ke : BitVec 64) (fast : Bool)
    (hp : p.length < 2 ^ 62) (hfl : p.length + 2 ≤ fuel) (hoff : off.toNat ≤ p.length) :
    ∃ R e s, Decoder_DecodePackedInt32 fuel p off mode ks ke = .ret (R, e) s ∧
      s.d_p = p ∧ s.d_mode = mode ∧ s.d_keyStart = ks ∧ s.d_keyEnd = ke ∧
      (match ((decOf p off ks ke fast).step .packedInt32) with
       | (d', .ok (.ints vs), _) => e = .nil ∧ R.map (·.toInt) = vs ∧ s.d_offset.toNat = d'.off
       | (d', .err, _) => e ≠ .nil ∧ s.d_offset.toNat = d'.off
       | _ => False) :=
  (DecodePackedInt32_sim fuel hf p off mode ks ke fast hp hfl hoff).elim

theorem DecodePackedFixed64_refines (fuel : Nat) (hf : 11 ≤ fuel) (p : Bytes) (off mode ks ke : BitVec 64) (fast : Bool)
    (hp : p.length < 2 ^ 62) (hfl : p.length + 2 ≤ fuel) (hoff : off.toNat ≤ p.length) :
    ∃ R e s, Decoder_DecodePackedFixed64 fuel p off mode ks ke = .ret (R, e) s ∧
      s.d_p = p ∧ s.d_mode = mode ∧ s.d_keyStart = ks ∧ s.d_keyEnd = ke ∧
      (match ((decOf p off ks ke fast).step .packedFixed64) with
       | (d', .ok (.nats vs), _) => e = .nil ∧ R.map (·.toNat) = vs ∧ s.d_offset.toNat = d'.off
       | (d', .err, _) => e ≠ .nil ∧ s.d_offset.toNat = d'.off
       | _ => False) :=
  (DecodePackedFixed64_sim fuel hf p off mode ks ke fast hp hfl hoff).elim

theorem DecodePackedFixed32_refines (fuel : Nat) (hf : 11 ≤ fuel) (p : Bytes) (off mode ks ke : BitVec 64) (fast : Bool)
    (hp : p.length < 2 ^ 62) (hfl : p.length + 2 ≤ fuel) (hoff : off.toNat ≤ p.length) :
    ∃ R e s, Decoder_DecodePackedFixed32 fuel p off mode ks ke = .ret (R, e) s ∧
      s.d_p = p ∧ s.d_mode = mode ∧ s.d_keyStart = ks ∧ s.d_keyEnd = ke ∧
      (match ((decOf p off ks ke fast).step .packedFixed32) with
       | (d', .ok (.nats vs), _) => e = .nil ∧ R.map (·.toNat) = vs ∧ s.d_offset.toNat = d'.off
       | (d', .err, _) => e ≠ .nil ∧ s.d_offset.toNat = d'.off
       | _ => False) :=
  (DecodePackedFixed32_sim fuel hf p off mode ks ke fast hp hfl hoff).elim

theorem DecodePackedBool_refines (fuel : Nat) (hf : 11 ≤ fuel) (p : Bytes) (off mode ks ke : BitVec 64) (fast : Bool)
    (hp : p.length < 2 ^ 62) (hfl : p.length + 2 ≤ fuel) (hoff : off.toNat ≤ p.length) :
    ∃ R e s, Decoder_DecodePackedBool fuel p off mode ks ke = .ret (R, e) s ∧
      s.d_p = p ∧ s.d_mode = mode ∧ s.d_keyStart = ks ∧ s.d_keyEnd = ke ∧
      (match ((decOf p off ks ke fast).step .packedBool) with
       | (d', .ok (.bools vs), _) => e = .nil ∧ R.map (fun b : Bool => b) = vs ∧ s.d_offset.toNat = d'.off
       | (d', .err, _) => e ≠ .nil ∧ s.d_offset.toNat = d'.off
       | _ => False) :=
  (DecodePackedBool_sim fuel hf p off mode ks ke fast hp hfl hoff).elim

end Csproto.Bridge.PackedFuncs
