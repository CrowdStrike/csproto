import Csproto.Generated.Lazy
import Csproto.Model.Lazy
import Csproto.Props.C13
/-
  Bridge for F9: the accessor table regenerated from lazyproto/fielddata.go (helper used, expected
  wire type, csproto decode function, fast-mode scratch slice) is the table the model's `accessFD`
  implements.
-/
namespace Csproto.Bridge
open Csproto

def allAccs : List Acc := [.bool, .bools, .bytes, .bytess, .fixed32, .fixed32s, .fixed64, .fixed64s, .float32, .float32s,
  .float64, .float64s, .int32, .int32s, .int64, .int64s, .sint32, .sint32s, .sint64, .sint64s, .string, .strings,
  .uint32, .uint32s, .uint64, .uint64s]

/-- expected wire type of the accessor's element type -/
def accWt : Acc → Nat
  | .bool | .bools | .uint32 | .uint32s | .int32 | .int32s | .sint32 | .sint32s
  | .uint64 | .uint64s | .int64 | .int64s | .sint64 | .sint64s => wtVarint
  | .fixed32 | .fixed32s | .float32 | .float32s => wtFixed32
  | .fixed64 | .fixed64s | .float64 | .float64s => wtFixed64
  | .string | .strings | .bytes | .bytess => wtLen

def accPlural : Acc → Bool
  | .bools | .strings | .bytess | .uint32s | .int32s | .sint32s | .uint64s | .int64s | .sint64s
  | .fixed32s | .fixed64s | .float32s | .float64s => true
  | _ => false

def wtGoName (wt : Nat) : String :=
  if wt = wtVarint then "WireTypeVarint" else if wt = wtFixed32 then "WireTypeFixed32"
  else if wt = wtFixed64 then "WireTypeFixed64" else "WireTypeLengthDelimited"

/-- Go method name, csproto decode function used, fast-mode scratch slice -/
def accInfo : Acc → String × String × String
  | .bool => ("BoolValue", "csproto.DecodeVarint", "-")
  | .bools => ("BoolValues", "csproto.DecodeVarint", "boolSlice")
  | .bytes => ("BytesValue", "slices.Clone", "-")
  | .bytess => ("BytesValues", "slices.Clone", "-")
  | .fixed32 => ("Fixed32Value", "csproto.DecodeFixed32", "-")
  | .fixed32s => ("Fixed32Values", "csproto.DecodeFixed32", "uint32Slice")
  | .fixed64 => ("Fixed64Value", "csproto.DecodeFixed64", "-")
  | .fixed64s => ("Fixed64Values", "csproto.DecodeFixed64", "uint64Slice")
  | .float32 => ("Float32Value", "", "-")
  | .float32s => ("Float32Values", "", "float32Slice")
  | .float64 => ("Float64Value", "", "-")
  | .float64s => ("Float64Values", "", "float64Slice")
  | .int32 => ("Int32Value", "csproto.DecodeVarint", "-")
  | .int32s => ("Int32Values", "csproto.DecodeVarint", "int32Slice")
  | .int64 => ("Int64Value", "csproto.DecodeVarint", "-")
  | .int64s => ("Int64Values", "csproto.DecodeVarint", "int64Slice")
  | .sint32 => ("SInt32Value", "csproto.DecodeVarint", "-")
  | .sint32s => ("SInt32Values", "csproto.DecodeVarint", "int32Slice")
  | .sint64 => ("SInt64Value", "csproto.DecodeZigZag64", "-")
  | .sint64s => ("SInt64Values", "csproto.DecodeZigZag64", "int64Slice")
  | .string => ("StringValue", "", "-")
  | .strings => ("StringValues", "", "stringSlice")
  | .uint32 => ("UInt32Value", "csproto.DecodeVarint", "-")
  | .uint32s => ("UInt32Values", "csproto.DecodeVarint", "uint32Slice")
  | .uint64 => ("UInt64Value", "csproto.DecodeVarint", "-")
  | .uint64s => ("UInt64Values", "csproto.DecodeVarint", "uint64Slice")

/-- one row of the table, assembled from `accInfo`, `accPlural` and — for the wire-type column —
    `accWt`, the very function the mismatch theorem below is about -/
def accRow (a : Acc) : String :=
  let (name, dec, scratch) := accInfo a
  if a = .bytess then name ++ ":-:-:" ++ dec ++ ":" ++ scratch
  else name ++ ":" ++ (if accPlural a then "sliceValue" else "scalarValue") ++ ":" ++ wtGoName (accWt a) ++ ":" ++ dec ++ ":" ++ scratch

theorem lazyAccessors_ok : Generated.lazyAccessors = allAccs.map accRow := by decide +kernel

/-- the model's accessors reject a wire type that is neither the table's nor (for slices)
    length-delimited — for every accessor of the table -/
theorem accessFD_mismatch (fd : FD) (a : Acc) (hne : fd.data ≠ [])
    (h1 : fd.wt ≠ accWt a) (h2 : fd.wt ≠ wtLen) : accessFD fd a = .mismatch := by
  -- every accessor is `scalarValue` / `sliceValue` at `accWt a`, but for two: `.strings` post-processes the
  -- answer of `sliceValue … wtLen`, `.bytess` tests the wire type itself
  cases a <;> dsimp only [accessFD]
  case strings => rw [C13.slice_mismatch _ _ _ _ hne h2 h2]
  case bytess => simp [hne, h2]
  all_goals first
    | exact C13.scalar_mismatch _ _ _ _ hne h1
    | exact C13.slice_mismatch _ _ _ _ hne h1 h2

/-- `Generated.lazyCloseSteps`: `(*DecodeResult).close` begins with the unconditional loop that empties the recorded data of every field —
    before the pool, the max buffer size or the filter function are looked at. This is the first step of
    `C14Opts.closeFds` (`xs.map FDC.reset`), on which `closeFds_erases_options` rests; and nothing else in `close`
    is a second, conditional place where data would be emptied. -/
theorem lazyClose_resets_first :
    Generated.lazyCloseSteps.head? = some "reset-data" ∧ (Generated.lazyCloseSteps.filter (· = "reset-data")).length = 1 :=
  ⟨rfl, by decide +kernel⟩

end Csproto.Bridge
