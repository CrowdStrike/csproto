import Csproto.Bridge.WireFuncs
import Csproto.Bridge.Facts
import Csproto.Proofs.Wire
/-
  The translated wire primitives that CALL other translated primitives: `EncodeTag`, `EncodeZigZag32`, `EncodeZigZag64`
  (encoder.go) and `DecodeZigZag32`, `DecodeZigZag64` (decoder.go).  A call of another translated function is a `match` on
  that function's outcome (a panic or divergence of the callee is one of the caller; a callee that stores into the slice it is
  given writes through to the caller's slice, because both share the backing array).  Each is proved against `Model/Wire.lean`
  for every input; the round trips at the end have no model function in their statements.
-/
namespace Csproto.Bridge.WireFuncs
open Csproto Csproto.Generated.WireFuncs Csproto.Bridge

theorem EncodeTag_unfold (fuel : Nat) (dest : Bytes) (tag wt : BitVec 64) :
    EncodeTag fuel dest tag wt =
      (match EncodeVarint fuel dest ((tag <<< 3) ||| wt) with
        | .ret r c => .ret r { dest := c.dest, tag := tag, wireType := wt, k := (tag <<< 3) ||| wt }
        | .next _ => .panic | .panic => .panic | .diverge => .diverge) := by
  unfold EncodeTag EncodeTag.body
  simp only [Go.seq]
  cases EncodeVarint fuel dest ((tag <<< 3) ||| wt) <;> rfl

theorem key_toNat (tag wt : BitVec 64) : ((tag <<< 3) ||| wt).toNat = keyOf tag.toNat wt.toNat :=
  Bridge.encodeTag_src tag wt

/-- **`EncodeTag` of the source writes the model's `encTag`**, leaves the rest of the buffer, returns the length -/
theorem EncodeTag_ok (fuel : Nat) (dest : Bytes) (tag wt : BitVec 64) (hf : 10 ≤ fuel)
    (hd : (encTag tag.toNat wt.toNat).length ≤ dest.length) :
    ∃ s', EncodeTag fuel dest tag wt = .ret (BitVec.ofNat 64 (encTag tag.toNat wt.toNat).length) s' ∧
      s'.dest = encTag tag.toNat wt.toNat ++ dest.drop (encTag tag.toNat wt.toNat).length := by
  unfold encTag at *
  rw [← key_toNat] at *
  obtain ⟨c, h1, h2⟩ := EncodeVarint_ok fuel dest ((tag <<< 3) ||| wt) hf hd
  rw [EncodeTag_unfold, h1]
  exact ⟨_, rfl, h2⟩

theorem EncodeTag_short (fuel : Nat) (dest : Bytes) (tag wt : BitVec 64) (hf : 10 ≤ fuel)
    (hd : dest.length < (encTag tag.toNat wt.toNat).length) : EncodeTag fuel dest tag wt = .panic := by
  unfold encTag at *
  rw [← key_toNat] at *
  rw [EncodeTag_unfold, EncodeVarint_short fuel dest _ hf hd]

theorem EncodeZigZag64_unfold (fuel : Nat) (dest : Bytes) (v : BitVec 64) :
    EncodeZigZag64 fuel dest v =
      (match EncodeVarint fuel dest (Generated.EncodeZigZag64_zz v) with
        | .ret r c => .ret r { dest := c.dest, v := v, zz := Generated.EncodeZigZag64_zz v }
        | .next _ => .panic | .panic => .panic | .diverge => .diverge) := by
  unfold EncodeZigZag64 EncodeZigZag64.body Generated.EncodeZigZag64_zz
  simp only [Go.seq]
  cases EncodeVarint fuel dest ((v <<< 1) ^^^ (BitVec.sshiftRight v 63)) <;> rfl

/-- **`EncodeZigZag64` of the source writes the model's `encZigZag64`** of the argument read as an int64 -/
theorem EncodeZigZag64_ok (fuel : Nat) (dest : Bytes) (v : BitVec 64) (hf : 10 ≤ fuel)
    (hd : (encZigZag64 v.toInt).length ≤ dest.length) :
    ∃ s', EncodeZigZag64 fuel dest v = .ret (BitVec.ofNat 64 (encZigZag64 v.toInt).length) s' ∧
      s'.dest = encZigZag64 v.toInt ++ dest.drop (encZigZag64 v.toInt).length := by
  unfold encZigZag64 at *
  rw [← Bridge.encodeZigZag64_src] at *
  obtain ⟨c, h1, h2⟩ := EncodeVarint_ok fuel dest (Generated.EncodeZigZag64_zz v) hf hd
  rw [EncodeZigZag64_unfold, h1]
  exact ⟨_, rfl, h2⟩

theorem EncodeZigZag64_short (fuel : Nat) (dest : Bytes) (v : BitVec 64) (hf : 10 ≤ fuel)
    (hd : dest.length < (encZigZag64 v.toInt).length) : EncodeZigZag64 fuel dest v = .panic := by
  unfold encZigZag64 at *
  rw [← Bridge.encodeZigZag64_src] at *
  rw [EncodeZigZag64_unfold, EncodeVarint_short fuel dest _ hf hd]

theorem EncodeZigZag32_unfold (fuel : Nat) (dest : Bytes) (v : BitVec 32) :
    EncodeZigZag32 fuel dest v =
      (match EncodeVarint fuel dest (Generated.EncodeZigZag32_zz v) with
        | .ret r c => .ret r { dest := c.dest, v := v, zz := Generated.EncodeZigZag32_zz v }
        | .next _ => .panic | .panic => .panic | .diverge => .diverge) := by
  unfold EncodeZigZag32 EncodeZigZag32.body Generated.EncodeZigZag32_zz
  simp only [Go.seq]
  cases EncodeVarint fuel dest (BitVec.setWidth 64 ((v <<< 1) ^^^ (BitVec.sshiftRight v 31))) <;> rfl

/-- **`EncodeZigZag32` of the source writes the model's `encZigZag32`** of the argument read as an int32 -/
theorem EncodeZigZag32_ok (fuel : Nat) (dest : Bytes) (v : BitVec 32) (hf : 10 ≤ fuel)
    (hd : (encZigZag32 v.toInt).length ≤ dest.length) :
    ∃ s', EncodeZigZag32 fuel dest v = .ret (BitVec.ofNat 64 (encZigZag32 v.toInt).length) s' ∧
      s'.dest = encZigZag32 v.toInt ++ dest.drop (encZigZag32 v.toInt).length := by
  unfold encZigZag32 at *
  rw [← Bridge.encodeZigZag32_src] at *
  obtain ⟨c, h1, h2⟩ := EncodeVarint_ok fuel dest (Generated.EncodeZigZag32_zz v) hf hd
  rw [EncodeZigZag32_unfold, h1]
  exact ⟨_, rfl, h2⟩

theorem EncodeZigZag32_short (fuel : Nat) (dest : Bytes) (v : BitVec 32) (hf : 10 ≤ fuel)
    (hd : dest.length < (encZigZag32 v.toInt).length) : EncodeZigZag32 fuel dest v = .panic := by
  unfold encZigZag32 at *
  rw [← Bridge.encodeZigZag32_src] at *
  rw [EncodeZigZag32_unfold, EncodeVarint_short fuel dest _ hf hd]

theorem DecodeVarint_returns (fuel : Nat) (hf : 11 ≤ fuel) (p : Bytes) (hp : p.length < 2 ^ 63) :
    ∃ v n e c, DecodeVarint fuel p = .ret (v, n, e) c :=
  let ⟨v, n, e, c, h, _⟩ := reads_varint fuel hf p hp
  ⟨v, n, e, c, h⟩

/-- what a run of `DecodeZigZag64` amounts to in the vocabulary of the model -/
def toResZ64 : Go.Out DecodeZigZag64.St DecodeZigZag64.R → Res (Int × Nat)
  | .ret (v, n, .nil) _ => .ok (v.toInt, n.toNat)
  | .ret _ _ => .err
  | _ => .panic

def toResZ32 : Go.Out DecodeZigZag32.St DecodeZigZag32.R → Res (Int × Nat)
  | .ret (v, n, .nil) _ => .ok (v.toInt, n.toNat)
  | .ret _ _ => .err
  | _ => .panic

theorem toResZ64_eq (o : Go.Out DecodeZigZag64.St DecodeZigZag64.R) : toResZ64 o = outRes BitVec.toInt o := by
  cases o with
  | ret x c => obtain ⟨v, n, e⟩ := x; cases e <;> rfl
  | _ => rfl

theorem toResZ32_eq (o : Go.Out DecodeZigZag32.St DecodeZigZag32.R) : toResZ32 o = outRes BitVec.toInt o := by
  cases o with
  | ret x c => obtain ⟨v, n, e⟩ := x; cases e <;> rfl
  | _ => rfl

/-- behind `dv, n, err := DecodeVarint(p)` in both zig-zag readers: the two error returns, then `return w, n, nil`; `h` is what
    `Reads` says of the call -/
theorem Reads.after_varint {τ β : Type} {rd : β → Int} {f : Nat → Int} {r : Res (Nat × Nat)} {len : Nat} {v n : BitVec 64}
    {e : Go.Err} {z w : β} {s1 s1' s2 : τ}
    (h : (e = .nil ∧ r = .ok (v.toNat, n.toNat) ∧ 0 < n.toNat ∧ n.toNat ≤ len) ∨ (e ≠ .nil ∧ r = .err)) (hw : rd w = f v.toNat) :
    Reads (if e != .nil then .ret (z, 0#64, e) s1 else if n == 0#64 then .ret (z, 0#64, .invalidVarint) s1' else .ret (w, n, .nil) s2)
      (match r with | .ok (dv, k) => if k = 0 then .err else .ok (f dv, k) | .err => .err | .panic => .panic) rd len := by
  rcases h with ⟨rfl, rfl, hpos, hle⟩ | ⟨he, rfl⟩
  · rw [ite_nil_pos hpos]
    exact ⟨_, _, _, _, rfl,
      .inl ⟨rfl, (if_neg (Nat.ne_of_gt hpos)).trans (congrArg (fun i => Res.ok (i, n.toNat)) hw.symm), hpos, hle⟩⟩
  · rw [if_pos (bne_iff_ne.mpr he)]
    exact ⟨_, _, _, _, rfl, .inr ⟨he, rfl⟩⟩

theorem reads_zigzag64 (fuel : Nat) (hf : 11 ≤ fuel) (p : Bytes) (hp : p.length < 2 ^ 63) :
    Reads (DecodeZigZag64 fuel p) (decodeZigZag64 p) BitVec.toInt p.length := by
  obtain ⟨v, n, e, c, hd, hcase⟩ := reads_varint fuel hf p hp
  unfold DecodeZigZag64 DecodeZigZag64.body decodeZigZag64
  simp only [↓Go.seq_assoc, ↓Go.seq_skip, ↓Go.seq_guard, Go.seq, hd]
  exact Reads.after_varint hcase (decodeZigZag64_src v)

theorem reads_zigzag32 (fuel : Nat) (hf : 11 ≤ fuel) (p : Bytes) (hp : p.length < 2 ^ 63) :
    Reads (DecodeZigZag32 fuel p) (decodeZigZag32 p) BitVec.toInt p.length := by
  obtain ⟨v, n, e, c, hd, hcase⟩ := reads_varint fuel hf p hp
  unfold DecodeZigZag32 DecodeZigZag32.body decodeZigZag32
  simp only [↓Go.seq_assoc, ↓Go.seq_skip, ↓Go.seq_guard, Go.seq, hd]
  exact Reads.after_varint (f := fun dv => unzigzag (dv % two32)) hcase (decodeZigZag32_src v)

/-- **`DecodeZigZag64` of the source = `decodeZigZag64` of the model**, for every input a Go slice can hold -/
theorem DecodeZigZag64_eq (fuel : Nat) (hf : 11 ≤ fuel) (p : Bytes) (hp : p.length < 2 ^ 63) :
    toResZ64 (DecodeZigZag64 fuel p) = (match decodeZigZag64 p with | .ok r => .ok r | _ => .err) := by
  rw [toResZ64_eq, (reads_zigzag64 fuel hf p hp).outRes_eq]
  cases decodeZigZag64 p <;> rfl

/-- **`DecodeZigZag32` of the source = `decodeZigZag32` of the model**, for every input a Go slice can hold -/
theorem DecodeZigZag32_eq (fuel : Nat) (hf : 11 ≤ fuel) (p : Bytes) (hp : p.length < 2 ^ 63) :
    toResZ32 (DecodeZigZag32 fuel p) = (match decodeZigZag32 p with | .ok r => .ok r | _ => .err) := by
  rw [toResZ32_eq, (reads_zigzag32 fuel hf p hp).outRes_eq]
  cases decodeZigZag32 p <;> rfl

theorem inI64_toInt (v : BitVec 64) : InI64 v.toInt := by
  unfold InI64 two63; have := v.toInt_lt; have := v.le_toInt; omega

theorem inI32_toInt (v : BitVec 32) : InI32 v.toInt := by
  unfold InI32 two31; have := v.toInt_lt; have := v.le_toInt; omega

theorem encZigZag64_len_le (i : Int) (h : InI64 i) : (encZigZag64 i).length ≤ 10 :=
  encVarint_length_le_10 (zigzag_lt_two64 h)

theorem encZigZag32_len_le (i : Int) (h : InI32 i) : (encZigZag32 i).length ≤ 10 := by
  have h32 := zigzag_lt_two32 h
  exact encVarint_length_le_10 (by unfold two32 at h32; unfold two64; omega)

/-- **the source's `EncodeZigZag64` followed by the source's `DecodeZigZag64` is the identity on every int64**, for every
    destination buffer with room, whatever it held before; the decoder reports exactly the bytes the encoder wrote. -/
theorem translated_zigzag64_roundtrip (fuel : Nat) (hf : 11 ≤ fuel) (v : BitVec 64) (dest : Bytes)
    (hroom : 10 ≤ dest.length) (hlen : dest.length < 2 ^ 63) :
    ∃ n s', EncodeZigZag64 fuel dest v = .ret n s' ∧ s'.dest.length = dest.length ∧
      toResZ64 (DecodeZigZag64 fuel s'.dest) = .ok (v.toInt, n.toNat) := by
  have h10 := encZigZag64_len_le v.toInt (inI64_toInt v)
  obtain ⟨s', h1, h2⟩ := EncodeZigZag64_ok fuel dest v (Nat.le_of_succ_le hf) (Nat.le_trans h10 hroom)
  have hl : s'.dest.length = dest.length := by rw [h2]; exact length_overwrite _ _ (Nat.le_trans h10 hroom)
  refine ⟨_, s', h1, hl, ?_⟩
  rw [DecodeZigZag64_eq fuel hf s'.dest (hl ▸ hlen), h2, decodeZigZag64_enc _ (inI64_toInt v), toNat_ofNat_lt (Nat.lt_of_le_of_lt h10 (by decide))]

/-- **the source's `EncodeZigZag32` followed by the source's `DecodeZigZag32` is the identity on every int32**, for every
    destination buffer with room, whatever it held before; the decoder reports exactly the bytes the encoder wrote. -/
theorem translated_zigzag32_roundtrip (fuel : Nat) (hf : 11 ≤ fuel) (v : BitVec 32) (dest : Bytes)
    (hroom : 10 ≤ dest.length) (hlen : dest.length < 2 ^ 63) :
    ∃ n s', EncodeZigZag32 fuel dest v = .ret n s' ∧ s'.dest.length = dest.length ∧
      toResZ32 (DecodeZigZag32 fuel s'.dest) = .ok (v.toInt, n.toNat) := by
  have h10 := encZigZag32_len_le v.toInt (inI32_toInt v)
  obtain ⟨s', h1, h2⟩ := EncodeZigZag32_ok fuel dest v (Nat.le_of_succ_le hf) (Nat.le_trans h10 hroom)
  have hl : s'.dest.length = dest.length := by rw [h2]; exact length_overwrite _ _ (Nat.le_trans h10 hroom)
  refine ⟨_, s', h1, hl, ?_⟩
  rw [DecodeZigZag32_eq fuel hf s'.dest (hl ▸ hlen), h2, decodeZigZag32_enc _ (inI32_toInt v), toNat_ofNat_lt (Nat.lt_of_le_of_lt h10 (by decide))]

/-- **the key the source's `EncodeTag` writes is read back by the source's `DecodeVarint` as `tag·8 + wireType`**
    (the free-function half of `Decoder.DecodeTag`): every field number below 2^61 and every 3-bit wire type. -/
theorem translated_tag_roundtrip (fuel : Nat) (hf : 11 ≤ fuel) (tag wt : BitVec 64) (dest : Bytes)
    (htag : tag.toNat < 2 ^ 61) (hwt : wt.toNat < 8) (hroom : 10 ≤ dest.length) (hlen : dest.length < 2 ^ 63) :
    ∃ n s', EncodeTag fuel dest tag wt = .ret n s' ∧ s'.dest.length = dest.length ∧
      toRes (DecodeVarint fuel s'.dest) = .ok (tag.toNat * 8 + wt.toNat, n.toNat) := by
  have hk : keyOf tag.toNat wt.toNat < two64 := by rw [← key_toNat, two64_eq]; exact (tag <<< 3 ||| wt).isLt
  have h10 : (encTag tag.toNat wt.toNat).length ≤ 10 := encVarint_length_le_10 hk
  obtain ⟨s', h1, h2⟩ := EncodeTag_ok fuel dest tag wt (Nat.le_of_succ_le hf) (Nat.le_trans h10 hroom)
  rw [encTag] at h1 h2 h10
  have hl : s'.dest.length = dest.length := by rw [h2]; exact length_overwrite _ _ (Nat.le_trans h10 hroom)
  refine ⟨_, s', h1, hl, ?_⟩
  rw [DecodeVarint_eq fuel hf s'.dest (hl ▸ hlen), h2, decodeVarint_encVarint _ hk, toNat_ofNat_lt (Nat.lt_of_le_of_lt h10 (by decide)),
    keyOf_eq_of_lt htag hwt]

end Csproto.Bridge.WireFuncs
