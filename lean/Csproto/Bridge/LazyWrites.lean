import Csproto.Generated.Lazy
/-
  Bridge for `Generated.lazyFieldWrites` (C15): which functions of lazyproto write which fields.  The tables every clone
  shares (tag tables, nested decoders, options, pool pointers) are written only while a decoder or a
  result is being constructed, never by decode / accessors / NestedResult(s) / Close — which is the
  "shared tables are read-only" premise of the ownership model.
-/
namespace Csproto.Bridge

/-- fields reachable from more than one goroutine once a Decoder is shared -/
def sharedFields : List String :=
  ["Decoder.pool", "Decoder.filter", "Decoder.maxBuffer", "Decoder.mode",
   "DecodeResult.pool", "DecodeResult.filter", "DecodeResult.flatTags", "DecodeResult.nestedTags",
   "DecodeResult.nestedDecoders", "DecodeResult.nestedDecoders[]", "DecodeResult.maxBuffer", "DecodeResult.unsafe",
   "FieldData.unsafe"]

/-- functions that run before a decoder / result is published (constructors and option setters) -/
def constructors : List String :=
  ["NewDecoder(literal)", "newBaseResult", "newBaseResult(literal)", "clone", "clone(literal)",
   "WithMaxBufferSize", "WithBufferFilterFunc", "WithMode"]

/-- functions that touch per-result state: they all operate on a result the calling goroutine holds -/
def perResultWriters : List String :=
  ["decode", "decodeWithPool", "close", "Close", "trunc", "NestedResult", "NestedResults", "Decode",
   "BoolValues", "StringValues", "UInt32Values", "Int32Values", "SInt32Values", "UInt64Values", "Int64Values",
   "SInt64Values", "Fixed32Values", "Fixed64Values", "Float32Values", "Float64Values"]

/-- the two kinds of write the ownership model knows: a constructor's (to any field), or a result-level
    function's to a field that is not shared -/
def twoKinds (w : String × String) : Bool :=
  constructors.contains w.2 || (perResultWriters.contains w.2 && !sharedFields.contains w.1)

theorem twoKinds_split {w : String × String} (h : twoKinds w = true) :
    (!sharedFields.contains w.1 || constructors.contains w.2) = true ∧
    (constructors.contains w.2 || perResultWriters.contains w.2) = true :=
  have bool : ∀ c p s : Bool, (c || (p && !s)) = true → (!s || c) = true ∧ (c || p) = true := by decide
  bool _ _ _ h

theorem writes_two_kinds : Generated.lazyFieldWrites.all twoKinds = true := by decide +kernel

/-- **shared fields are written only by constructors** (checked over the regenerated write table) -/
theorem shared_written_only_by_constructors :
    Generated.lazyFieldWrites.all (fun w => !sharedFields.contains w.1 || constructors.contains w.2) = true :=
  List.all_eq_true.mpr fun w hw => (twoKinds_split (List.all_eq_true.mp writes_two_kinds w hw)).1

/-- every write is either a constructor write or a write to per-result state by one of the
    result-level functions — there is no third kind -/
theorem writes_classified :
    Generated.lazyFieldWrites.all (fun w => constructors.contains w.2 || perResultWriters.contains w.2) = true :=
  List.all_eq_true.mpr fun w hw => (twoKinds_split (List.all_eq_true.mp writes_two_kinds w hw)).2

/-- **`Generated.lazyGlobalWrites` (C15): no package-level state is mutated at run time.**  The ownership model has two kinds of
    locations only: objects a goroutine holds between `Get` and `Put`, and tables that are written by
    constructors and read afterwards.  A package-level variable that some function of lazyproto assigns,
    indexes into, appends to, deletes from, takes the address of, or hands to another function as a map /
    slice / pointer would be a third kind — reachable from every goroutine with no `Put`/`Get` between the
    accesses (variables of `sync` / `sync/atomic` types are synchronised by construction and not listed).  The
    regenerated table of such mutations is empty. -/
theorem no_package_level_state_mutated : Generated.lazyGlobalWrites = [] := rfl

end Csproto.Bridge
