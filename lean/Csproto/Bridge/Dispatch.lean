import Csproto.Generated.Dispatch
/-
  Bridge for the regenerated dispatch facts (F5): the order in which the code probes interfaces and
  what each arm calls is what the models of C19 (nested bridging) and C11 (runtime shim) assume.
-/
namespace Csproto.Bridge

theorem encodeNested_arms_ok : Generated.EncodeNested_arms =
    ["MarshalerTo:Size,EncodeTag,EncodeVarint,.MarshalTo", "Marshaler:.Marshal,.EncodeBytes", "default:Marshal,.EncodeBytes"] := rfl

theorem decodeNested_arms_ok : Generated.DecodeNested_arms = ["Unmarshaler:.Reset,.Unmarshal", "default:Unmarshal"] := rfl

theorem marshal_probes_ok : Generated.Marshal_probes =
    ["Marshaler:.Marshal", "ProtoV1Marshaler:.XXX_Size,.XXX_Marshal", "proto.Message:proto.Marshal"] := rfl

theorem unmarshal_probes_ok : Generated.Unmarshal_probes =
    ["Unmarshaler:.Reset,.Unmarshal", "ProtoV1Unmarshaler:.Reset,.XXX_Unmarshal", "proto.Message:proto.Unmarshal"] := rfl

theorem size_probes_ok : Generated.Size_probes =
    ["Sizer:.Size", "ProtoV1Sizer:.XXX_Size", "proto.Message:proto.Size"] := rfl

end Csproto.Bridge
