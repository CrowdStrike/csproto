import Csproto.Bridge.GoSteps
import Csproto.Generated.WireFuncs
import Csproto.Model.Wire
import Csproto.Proofs.Varint
import Csproto.Proofs.Total
/-
  The translated wire primitives `EncodeVarint` (encoder.go), `DecodeVarint`, `DecodeFixed32`, `DecodeFixed64` (decoder.go) against
  the model of `Model/Wire.lean`.

  `Generated/WireFuncs.lean` is produced on every run by `harness/cmd/extract/wirefuncs.go` from the bodies of these functions in
  `/repo`'s current tree, statement by statement, over the Go-fragment semantics of `Model/GoSem.lean`.  For every input, by
  induction, the translated functions compute what the hand-written model says; `Reads` is the form in which callers use that.
  Side conditions are Go's own: a slice length fits in `int` (`< 2^63`).  `fuel` only has to be large enough (≥ 11), so the theorems
  also show that the loops terminate.  A change to one of these Go functions changes the generated definitions; if it changes what
  they compute, the theorems fail.
-/
namespace Csproto.Bridge.WireFuncs
open Csproto Csproto.Generated.WireFuncs

/-- one iteration of `Go.loop`, all outcomes at once -/
theorem loop_succ {σ ρ : Type} (c : σ → Option Bool) (b p : σ → Go.Out σ ρ) (fuel : Nat) (s : σ) :
    Go.loop c b p (fuel + 1) s =
      match c s with
      | none => .panic
      | some false => .next s
      | some true =>
        match b s with
        | .next s1 =>
          match p s1 with
          | .next s2 => Go.loop c b p fuel s2
          | o => o
        | o => o := rfl

section Reads
variable {τ β γ : Type}

/-- A run `out` of a translated free function `p ↦ (value, n, err)` yields what the model's reader yields (`r`): it returns;
    without an error the value (read through `rd`) and the length `0 < n ≤ len` are the model's, with an error the model
    fails too. -/
def Reads (out : Go.Out τ (β × BitVec 64 × Go.Err)) (r : Res (γ × Nat)) (rd : β → γ) (len : Nat) : Prop :=
  ∃ v n e c, out = .ret (v, n, e) c ∧
    ((e = .nil ∧ r = .ok (rd v, n.toNat) ∧ 0 < n.toNat ∧ n.toNat ≤ len) ∨ (e ≠ .nil ∧ r = .err))

/-- a run in the model's vocabulary; `toRes`, `toResZ64`, `toResZ32` are this at their types -/
def outRes (rd : β → γ) : Go.Out τ (β × BitVec 64 × Go.Err) → Res (γ × Nat)
  | .ret (v, n, .nil) _ => .ok (rd v, n.toNat)
  | .ret _ _ => .err
  | _ => .panic

/-- `Reads` from an equation in the style of `DecodeVarint_eq` -/
theorem Reads.of_outRes {out : Go.Out τ (β × BitVec 64 × Go.Err)} {r : Res (γ × Nat)} {rd : β → γ} {len : Nat}
    (hok : ∀ x, r = .ok x → outRes rd out = .ok x) (herr : r = .err → outRes rd out = .err) (hr : r ≠ .panic)
    (hb : ∀ x k, r = .ok (x, k) → 0 < k ∧ k ≤ len) : Reads out r rd len := by
  cases r with
  | panic => exact absurd rfl hr
  | ok y =>
    have h := hok y rfl
    cases out with
    | ret x c =>
      obtain ⟨v, n, e⟩ := x
      cases e with
      | nil => cases h; exact ⟨v, n, _, c, rfl, Or.inl ⟨rfl, rfl, hb _ _ rfl⟩⟩
      | _ => cases h
    | _ => cases h
  | err =>
    have h := herr rfl
    cases out with
    | ret x c =>
      obtain ⟨v, n, e⟩ := x
      cases e with
      | nil => cases h
      | _ => exact ⟨v, n, _, c, rfl, Or.inr ⟨nofun, rfl⟩⟩
    | _ => cases h

theorem Reads.outRes_eq {out : Go.Out τ (β × BitVec 64 × Go.Err)} {r : Res (γ × Nat)} {rd : β → γ} {len : Nat} :
    Reads out r rd len → outRes rd out = (match r with | .ok x => .ok x | _ => .err) := by
  rintro ⟨v, n, e, c, rfl, ⟨rfl, hr, -, -⟩ | ⟨he, hr⟩⟩
  · subst hr; rfl
  · subst hr; cases e <;> first | exact absurd rfl he | rfl

end Reads

theorem ofNat_fromLE_cons (w : Nat) (b : UInt8) (bs : Bytes) :
    BitVec.ofNat w (fromLE (b :: bs)) = BitVec.setWidth w b.toBitVec ||| BitVec.ofNat w (fromLE bs) <<< 8 := by
  rw [setWidth_u8, ofNat_or_shiftLeft w _ _ 8 b.toNat_lt]; rfl

/-- `acc | b₀<<i | b₁<<(i+8) | …`, associated to the left: the expression `DecodeFixed32/64` build, one statement per byte -/
def orLE (w : Nat) : BitVec w → Nat → Bytes → BitVec w
  | acc, _, [] => acc
  | acc, i, b :: bs => orLE w (acc ||| BitVec.setWidth w b.toBitVec <<< i) (i + 8) bs

theorem orLE_eq (w : Nat) (acc : BitVec w) (i : Nat) (bs : Bytes) :
    orLE w acc i bs = acc ||| BitVec.ofNat w (fromLE bs) <<< i := by
  induction bs generalizing acc i with
  | nil => simp [orLE, fromLE]
  | cons b bs ih =>
    rw [orLE, ih, Nat.add_comm i 8, BitVec.shiftLeft_add, ofNat_fromLE_cons, BitVec.shiftLeft_or_distrib, BitVec.or_assoc]

/- Both readers: the length test is decided by `slt_ofNat`.  When it passes, what follows (re-slice, one bounds-checked load per
   byte) runs by computation on a list whose first bytes are given, and leaves `orLE` of them in `v`. -/

theorem DecodeFixed32_ok (fuel : Nat) (a b c d : UInt8) (rest : Bytes) (hp : (a :: b :: c :: d :: rest).length < 2 ^ 63) :
    ∃ s, DecodeFixed32 fuel (a :: b :: c :: d :: rest) = .ret (BitVec.ofNat 32 (fromLE [a, b, c, d]), 4#64, Go.Err.nil) s := by
  have hl : ¬ (BitVec.ofNat 64 (a :: b :: c :: d :: rest).length).slt 4#64 = true := by
    rw [slt_ofNat _ 4 hp (by decide), decide_eq_true_eq]; simp only [List.length_cons]; omega
  apply Exists.intro
  rw [ofNat_fromLE_cons, ← orLE_eq]
  unfold DecodeFixed32 DecodeFixed32.body
  rw [Go.seq_assoc, Go.seq_guard_skip]
  · rfl
  · exact hl

theorem DecodeFixed32_short (fuel : Nat) (p : Bytes) (hp : p.length < 4) :
    ∃ s, DecodeFixed32 fuel p = .ret (0#32, 0#64, Go.Err.unexpectedEOF) s := by
  have hl : (BitVec.ofNat 64 p.length).slt 4#64 = true := by
    rw [slt_ofNat _ 4 (Nat.lt_trans hp (by decide)) (by decide)]; exact decide_eq_true hp
  apply Exists.intro
  unfold DecodeFixed32 DecodeFixed32.body
  rw [Go.seq_assoc, Go.seq_guard_take]
  · rfl
  · exact hl

theorem DecodeFixed64_ok (fuel : Nat) (a b c d e f g h : UInt8) (rest : Bytes) (hp : (a :: b :: c :: d :: e :: f :: g :: h :: rest).length < 2 ^ 63) :
    ∃ s, DecodeFixed64 fuel (a :: b :: c :: d :: e :: f :: g :: h :: rest) = .ret (BitVec.ofNat 64 (fromLE [a, b, c, d, e, f, g, h]), 8#64, Go.Err.nil) s := by
  have hl : ¬ (BitVec.ofNat 64 (a :: b :: c :: d :: e :: f :: g :: h :: rest).length).slt 8#64 = true := by
    rw [slt_ofNat _ 8 hp (by decide), decide_eq_true_eq]; simp only [List.length_cons]; omega
  apply Exists.intro
  rw [ofNat_fromLE_cons, ← orLE_eq]
  unfold DecodeFixed64 DecodeFixed64.body
  rw [Go.seq_assoc, Go.seq_guard_skip]
  · rfl
  · exact hl

theorem DecodeFixed64_short (fuel : Nat) (p : Bytes) (hp : p.length < 8) :
    ∃ s, DecodeFixed64 fuel p = .ret (0#64, 0#64, Go.Err.unexpectedEOF) s := by
  have hl : (BitVec.ofNat 64 p.length).slt 8#64 = true := by
    rw [slt_ofNat _ 8 (Nat.lt_trans hp (by decide)) (by decide)]; exact decide_eq_true hp
  apply Exists.intro
  unfold DecodeFixed64 DecodeFixed64.body
  rw [Go.seq_assoc, Go.seq_guard_take]
  · rfl
  · exact hl

theorem fromLE_lt (l : Bytes) : fromLE l < 256 ^ l.length := by
  induction l with
  | nil => simp [fromLE]
  | cons b bs ih =>
    have hb := b.toNat_lt
    simp only [fromLE, List.length_cons, Nat.pow_succ]
    generalize 256 ^ bs.length = k at ih ⊢
    omega

theorem cons_of_succ_le {q : Bytes} {k : Nat} (h : k + 1 ≤ q.length) : ∃ a t, q = a :: t ∧ k ≤ t.length := by
  cases q with
  | nil => cases h
  | cons a t => exact ⟨a, t, rfl, Nat.le_of_succ_le_succ h⟩

theorem reads_fixed32 (fuel : Nat) (q : Bytes) (hq : q.length < 2 ^ 63) :
    Reads (DecodeFixed32 fuel q) (decodeFixed32 q) BitVec.toNat q.length := by
  by_cases hs : q.length < 4
  · obtain ⟨c, hc⟩ := DecodeFixed32_short fuel q hs
    exact ⟨_, _, _, c, hc, Or.inr ⟨nofun, if_pos hs⟩⟩
  · obtain ⟨a, q, rfl, h₁⟩ := cons_of_succ_le (Nat.le_of_not_lt hs)
    obtain ⟨b, q, rfl, h₂⟩ := cons_of_succ_le h₁
    obtain ⟨c, q, rfl, h₃⟩ := cons_of_succ_le h₂
    obtain ⟨d, q, rfl, -⟩ := cons_of_succ_le h₃
    obtain ⟨st, hc⟩ := DecodeFixed32_ok fuel a b c d q hq
    have hlt : fromLE [a, b, c, d] < 2 ^ 32 := Nat.lt_of_lt_of_eq (fromLE_lt _) (by decide : 256 ^ 4 = 2 ^ 32)
    exact ⟨_, _, _, st, hc, Or.inl ⟨rfl, (if_neg hs).trans (congrArg (fun x => Res.ok (x, 4)) (Nat.mod_eq_of_lt hlt).symm),
      by decide, Nat.le_of_not_lt hs⟩⟩

theorem reads_fixed64 (fuel : Nat) (q : Bytes) (hq : q.length < 2 ^ 63) :
    Reads (DecodeFixed64 fuel q) (decodeFixed64 q) BitVec.toNat q.length := by
  by_cases hs : q.length < 8
  · obtain ⟨c, hc⟩ := DecodeFixed64_short fuel q hs
    exact ⟨_, _, _, c, hc, Or.inr ⟨nofun, if_pos hs⟩⟩
  · obtain ⟨a, q, rfl, h₁⟩ := cons_of_succ_le (Nat.le_of_not_lt hs)
    obtain ⟨b, q, rfl, h₂⟩ := cons_of_succ_le h₁
    obtain ⟨c, q, rfl, h₃⟩ := cons_of_succ_le h₂
    obtain ⟨d, q, rfl, h₄⟩ := cons_of_succ_le h₃
    obtain ⟨e, q, rfl, h₅⟩ := cons_of_succ_le h₄
    obtain ⟨f, q, rfl, h₆⟩ := cons_of_succ_le h₅
    obtain ⟨g, q, rfl, h₇⟩ := cons_of_succ_le h₆
    obtain ⟨i, q, rfl, -⟩ := cons_of_succ_le h₇
    obtain ⟨st, hc⟩ := DecodeFixed64_ok fuel a b c d e f g i q hq
    have hlt : fromLE [a, b, c, d, e, f, g, i] < 2 ^ 64 := Nat.lt_of_lt_of_eq (fromLE_lt _) (by decide : 256 ^ 8 = 2 ^ 64)
    exact ⟨_, _, _, st, hc, Or.inl ⟨rfl, (if_neg hs).trans (congrArg (fun x => Res.ok (x, 8)) (Nat.mod_eq_of_lt hlt).symm),
      by decide, Nat.le_of_not_lt hs⟩⟩

theorem byte_hi (v : BitVec 64) :
    UInt8.ofBitVec (BitVec.setWidth 8 ((v &&& 127#64) ||| 128#64)) = UInt8.ofNat (v.toNat % 128 + 128) := by
  apply UInt8.toNat_inj.mp
  have h1 : v.toNat &&& 127 = v.toNat % 128 := Nat.and_two_pow_sub_one_eq_mod v.toNat 7
  have h2 : v.toNat % 128 ||| 128 = v.toNat % 128 + 128 := Nat.or_two_pow_eq_add_of_lt (n := 7) (Nat.mod_lt _ (by decide))
  have h3 : (UInt8.ofBitVec (BitVec.setWidth 8 ((v &&& 127#64) ||| 128#64))).toNat = ((v.toNat &&& 127) ||| 128) % 256 := by
    simp only [UInt8.toNat_ofBitVec, BitVec.toNat_setWidth, BitVec.toNat_or, BitVec.toNat_and, BitVec.toNat_ofNat]
  rw [h3, h1, h2, UInt8.toNat_ofNat']

theorem byte_lo (v : BitVec 64) : UInt8.ofBitVec (BitVec.setWidth 8 v) = UInt8.ofNat v.toNat := by
  apply UInt8.toNat_inj.mp
  rw [UInt8.toNat_ofBitVec, BitVec.toNat_setWidth, UInt8.toNat_ofNat']

theorem length_overwrite (enc dest : Bytes) (h : enc.length ≤ dest.length) : (enc ++ dest.drop enc.length).length = dest.length := by
  rw [List.length_append, List.length_drop]; omega

/-- the rest of `EncodeVarint` after the loop: the last store and the `return` -/
def encFin : EncodeVarint.St → Go.Out EncodeVarint.St EncodeVarint.R :=
  (Go.seq (fun s => if ((s.n).toNat < s.dest.length) then .next { s with dest := Go.wr s.dest (s.n).toNat (BitVec.setWidth 8 s.v) } else .panic)
    (fun s => .ret ((s.n + 1#64)) s))

/-- the state of `EncodeVarint` when `pre` has been written and `tail` is the room left -/
abbrev encSt (pre tail : Bytes) (v : BitVec 64) : EncodeVarint.St :=
  { dest := pre ++ tail, v := v, n := BitVec.ofNat 64 pre.length }

theorem EncodeVarint_body_cons (fuelB : Nat) (pre : Bytes) (x : UInt8) (t : Bytes) (v : BitVec 64) (hpre : pre.length < 2 ^ 64) :
    EncodeVarint.loop1.body fuelB (encSt pre (x :: t) v) = .next (encSt (pre ++ [UInt8.ofNat (v.toNat % 128 + 128)]) t (v >>> 7)) := by
  have h1 : pre.length < pre.length + (x :: t).length := Nat.lt_add_of_pos_right (Nat.succ_pos _)
  simp only [EncodeVarint.loop1.body, Go.seq, encSt, toNat_ofNat_lt hpre, h1, if_true, Go.wr_at_length, byte_hi, List.append_assoc,
    List.singleton_append, BitVec.ofNat_add_ofNat, List.length_append, List.length_singleton]

theorem EncodeVarint_body_nil (fuelB : Nat) (pre : Bytes) (v : BitVec 64) (hpre : pre.length < 2 ^ 64) :
    EncodeVarint.loop1.body fuelB (encSt pre [] v) = .panic := by
  have h1 : ¬ (BitVec.ofNat 64 pre.length).toNat < (pre ++ []).length := by
    rw [toNat_ofNat_lt hpre, List.append_nil]; exact Nat.lt_irrefl _
  simp only [EncodeVarint.loop1.body, Go.seq, h1, if_false]

theorem encFin_cons (pre : Bytes) (x : UInt8) (t : Bytes) (v : BitVec 64) (hpre : pre.length < 2 ^ 64) :
    encFin (encSt pre (x :: t) v) =
      .ret (BitVec.ofNat 64 (pre.length + 1)) { dest := pre ++ UInt8.ofBitVec (BitVec.setWidth 8 v) :: t, v := v, n := BitVec.ofNat 64 pre.length } := by
  have h1 : pre.length < (pre ++ x :: t).length := by rw [List.length_append]; exact Nat.lt_add_of_pos_right (Nat.succ_pos _)
  simp only [encFin, Go.seq, toNat_ofNat_lt hpre, h1, if_true, Go.wr_at_length, BitVec.ofNat_add_ofNat]

theorem encFin_nil (pre : Bytes) (v : BitVec 64) (hpre : pre.length < 2 ^ 64) : encFin (encSt pre [] v) = .panic := by
  have h1 : ¬ (BitVec.ofNat 64 pre.length).toNat < (pre ++ []).length := by
    rw [toNat_ofNat_lt hpre, List.append_nil]; exact Nat.lt_irrefl _
  simp only [encFin, Go.seq, h1, if_false]

/-- The loop and the last store, by induction along `encVarint m`: with room for the encoding it is written behind `pre` and the
    rest of the buffer is left alone; without, the store that does not fit panics. -/
theorem enc_loop (fuelB : Nat) : ∀ (m : Nat) (v : BitVec 64), v.toNat = m → ∀ (pre tail : Bytes) (fuel : Nat),
    pre.length + (encVarint m).length < 2 ^ 64 → (encVarint m).length ≤ fuel →
    ((encVarint m).length ≤ tail.length →
      ∃ s', Go.seq (Go.loop EncodeVarint.loop1.cond (EncodeVarint.loop1.body fuelB) EncodeVarint.loop1.post fuel) encFin
          (encSt pre tail v) = .ret (BitVec.ofNat 64 (pre.length + (encVarint m).length)) s' ∧
        s'.dest = pre ++ encVarint m ++ tail.drop (encVarint m).length) ∧
    (tail.length < (encVarint m).length →
      Go.seq (Go.loop EncodeVarint.loop1.cond (EncodeVarint.loop1.body fuelB) EncodeVarint.loop1.post fuel) encFin
          (encSt pre tail v) = .panic) := by
  intro m
  induction m using Nat.strongRecOn with
  | _ m ih =>
    intro v hv pre tail fuel hpre hfuel
    have hlen := encVarint_length_pos m
    have hpre' : pre.length < 2 ^ 64 := Nat.lt_of_le_of_lt (Nat.le_add_right _ _) hpre
    obtain ⟨fuel, rfl⟩ : ∃ f, fuel = f + 1 := ⟨fuel - 1, by omega⟩
    have hc : EncodeVarint.loop1.cond (encSt pre tail v) = some (decide (128 ≤ m)) := by
      rw [EncodeVarint.loop1.cond, BitVec.ule_eq_decide, hv]; rfl
    by_cases hm : m < 128
    · rw [decide_eq_false (Nat.not_le_of_lt hm)] at hc
      rw [encVarint_small hm, Go.seq_next (Go.loop_stop hc ..)]
      cases tail with
      | nil => exact ⟨fun ht => absurd ht (by simp), fun _ => encFin_nil pre v hpre'⟩
      | cons x t =>
        refine ⟨fun _ => ⟨_, encFin_cons pre x t v hpre', ?_⟩, fun ht => absurd ht (by simp)⟩
        simp only [byte_lo v, hv, List.length_singleton, List.drop_succ_cons, List.drop_zero, List.append_assoc,
          List.singleton_append]
    · rw [decide_eq_true (Nat.le_of_not_lt hm)] at hc
      rw [encVarint_big hm] at hfuel hpre ⊢
      simp only [List.length_cons] at hfuel hpre ⊢
      cases tail with
      | nil =>
        exact ⟨fun ht => absurd ht (by simp), fun _ => Go.seq_panic (Go.loop_panic hc (EncodeVarint_body_nil fuelB pre v hpre') ..) _⟩
      | cons x t =>
        have hv' : (v >>> 7).toNat = m / 128 := by
          rw [BitVec.toNat_ushiftRight, hv, Nat.shiftRight_eq_div_pow]
        rw [Go.seq_congr (Go.loop_step (p := EncodeVarint.loop1.post) hc (EncodeVarint_body_cons fuelB pre x t v hpre') rfl fuel), hv]
        have hl : (pre ++ [UInt8.ofNat (m % 128 + 128)]).length + (encVarint (m / 128)).length
            = pre.length + ((encVarint (m / 128)).length + 1) := by
          rw [List.length_append, List.length_singleton, Nat.add_assoc, Nat.add_comm 1]
        have := ih (m / 128) (by omega) (v >>> 7) hv' (pre ++ [UInt8.ofNat (m % 128 + 128)]) t fuel (hl ▸ hpre)
          (Nat.le_of_succ_le_succ hfuel)
        refine ⟨fun ht => ?_, fun ht => this.2 (Nat.lt_of_succ_lt_succ ht)⟩
        obtain ⟨s', h1, h2⟩ := this.1 (Nat.le_of_succ_le_succ ht)
        exact ⟨s', by rw [h1, hl], by simp only [h2, List.append_assoc, List.cons_append, List.nil_append, List.drop_succ_cons]⟩

theorem EncodeVarint_unfold (fuel : Nat) (dest : Bytes) (v : BitVec 64) :
    EncodeVarint fuel dest v =
      Go.seq (Go.seq (Go.loop EncodeVarint.loop1.cond (EncodeVarint.loop1.body fuel) EncodeVarint.loop1.post fuel) encFin)
        Go.missingReturn (encSt [] dest v) := rfl

theorem encVarint_toNat_le10 (x : BitVec 64) : (encVarint x.toNat).length ≤ 10 :=
  encVarint_length_le_10 (by rw [two64_eq]; exact x.isLt)

theorem EncodeVarint_ok (fuel : Nat) (dest : Bytes) (v : BitVec 64) (hf : 10 ≤ fuel) (hd : (encVarint v.toNat).length ≤ dest.length) :
    ∃ s', EncodeVarint fuel dest v = .ret (BitVec.ofNat 64 (encVarint v.toNat).length) s' ∧
      s'.dest = encVarint v.toNat ++ dest.drop (encVarint v.toNat).length := by
  have h10 := encVarint_toNat_le10 v
  obtain ⟨s', h1, h2⟩ := (enc_loop fuel v.toNat v rfl [] dest fuel (by rw [List.length_nil]; omega) (by omega)).1 hd
  rw [List.length_nil, Nat.zero_add] at h1
  exact ⟨s', by rw [EncodeVarint_unfold, Go.seq_ret h1], h2⟩

theorem EncodeVarint_short (fuel : Nat) (dest : Bytes) (v : BitVec 64) (hf : 10 ≤ fuel) (hd : dest.length < (encVarint v.toNat).length) :
    EncodeVarint fuel dest v = .panic := by
  have h10 := encVarint_toNat_le10 v
  rw [EncodeVarint_unfold]
  exact Go.seq_panic ((enc_loop fuel v.toNat v rfl [] dest fuel (by rw [List.length_nil]; omega) (by omega)).2 hd) _

/-- what a run of `DecodeVarint` amounts to in the vocabulary of the model -/
def toRes : Go.Out DecodeVarint.St DecodeVarint.R → Res (Nat × Nat)
  | .ret (v, n, .nil) _ => .ok (v.toNat, n.toNat)
  | .ret _ _ => .err
  | _ => .panic

/-- `v |= (b & 0x7f) << shift` with `shift = 7k`: the accumulator update of both loops -/
def acc7 (v : BitVec 64) (bt : UInt8) (k : Nat) : BitVec 64 :=
  v ||| ((BitVec.setWidth 64 bt.toBitVec &&& 127#64) <<< (BitVec.ofNat 64 (7 * k)).toNat)

theorem acc7_toNat (v : BitVec 64) (bt : UInt8) (k : Nat) (hk : 7 * k < 2 ^ 64) :
    (acc7 v bt k).toNat = v.toNat ||| (((bt.toNat % 128) <<< (7 * k)) % two64) := by
  have hb : bt.toNat < 2 ^ 64 := Nat.lt_trans bt.toNat_lt (by decide)
  rw [acc7, BitVec.toNat_or, BitVec.toNat_shiftLeft, BitVec.toNat_and, setWidth_u8, toNat_ofNat_lt hb, toNat_ofNat_lt hk, two64_eq]
  exact congrArg (fun x => v.toNat ||| x <<< (7 * k) % 2 ^ 64) (Nat.and_two_pow_sub_one_eq_mod bt.toNat 7)

/-- `b&0x80 == 0`: bit 7 of the byte widened to 64 bits is the byte's top bit -/
theorem stop_bit (bt : UInt8) : ((BitVec.setWidth 64 bt.toBitVec &&& 128#64) == 0#64) = decide (bt.toNat < 128) := by
  have h7 : (BitVec.setWidth 64 bt.toBitVec).getLsbD 7 = decide (128 ≤ bt.toNat) := by
    rw [BitVec.getLsbD_setWidth, ← BitVec.msb_eq_getLsbD_last bt.toBitVec, BitVec.msb_eq_decide]; rfl
  rw [show (128#64) = BitVec.twoPow 64 7 from rfl, BitVec.and_twoPow, h7]
  by_cases h : 128 ≤ bt.toNat
  · rw [decide_eq_true h, decide_eq_false (by omega)]; rfl
  · rw [decide_eq_false h, decide_eq_true (by omega)]; rfl

/-- the `return 0, 0, ErrValueOverflow` behind each loop -/
def ovf : DecodeVarint.St → Go.Out DecodeVarint.St DecodeVarint.R := (fun s => .ret (0#64, 0#64, Go.Err.overflow) s)

/-- Both loops of `DecodeVarint` at once, seen through a family `S v k b` of states (accumulator `v`, `k` bytes consumed,
    `b` the last byte read).  Whenever the condition is `k < 10` and the body reports EOF when no byte is left, returns on a
    byte below 128 and otherwise ORs its 7 bits in and goes on from `S _ (k+1) _`, the loop followed by the overflow return
    computes the model's `decVarintLoop`. -/
theorem varint_loop {cond : DecodeVarint.St → Option Bool} {body post : DecodeVarint.St → Go.Out DecodeVarint.St DecodeVarint.R}
    (p : Bytes) (S : BitVec 64 → Nat → BitVec 64 → DecodeVarint.St)
    (hcond : ∀ v k b, k ≤ 10 → cond (S v k b) = some (decide (k < 10)))
    (heof : ∀ v k b, k < 10 → p.length ≤ k → ∃ s', body (S v k b) = .ret (0#64, 0#64, Go.Err.unexpectedEOF) s')
    (hbyte : ∀ v k b bt rest, k < 10 → p.drop k = bt :: rest →
      (bt.toNat < 128 → ∃ s', body (S v k b) = .ret (acc7 v bt k, BitVec.ofNat 64 (k + 1), Go.Err.nil) s') ∧
      (¬ bt.toNat < 128 → ∃ s₁ b', body (S v k b) = .next s₁ ∧ post s₁ = .next (S (acc7 v bt k) (k + 1) b'))) :
    ∀ (d k : Nat), k + d = 10 → ∀ (v b : BitVec 64) (fuel : Nat), d + 1 ≤ fuel →
      toRes (Go.seq (Go.loop cond body post fuel) ovf (S v k b))
        = (match decVarintLoop d (7 * k) v.toNat k (p.drop k) with | .ok r => .ok r | _ => .err) := by
  intro d
  induction d with
  | zero =>
    intro k hk v b fuel hf
    obtain ⟨fuel, rfl⟩ : ∃ f, fuel = f + 1 := ⟨fuel - 1, by omega⟩
    have hc := hcond v k b (by omega)
    rw [decide_eq_false (by omega)] at hc
    rw [Go.seq_next (Go.loop_stop hc ..)]
    rfl
  | succ d ih =>
    intro k hk v b fuel hf
    obtain ⟨fuel, rfl⟩ : ∃ f, fuel = f + 1 := ⟨fuel - 1, by omega⟩
    have hk9 : k < 10 := by omega
    have hc := hcond v k b (Nat.le_of_lt hk9)
    rw [decide_eq_true hk9] at hc
    cases hd : p.drop k with
    | nil =>
      obtain ⟨s', hb⟩ := heof v k b hk9 (List.drop_eq_nil_iff.mp hd)
      rw [Go.seq_ret (Go.loop_ret hc hb ..)]
      rfl
    | cons bt rest =>
      have hacc := acc7_toNat v bt k (Nat.lt_of_le_of_lt (Nat.mul_le_mul_left 7 (Nat.le_of_lt hk9)) (by decide))
      obtain ⟨hlast, hmore⟩ := hbyte v k b bt rest hk9 hd
      by_cases hbt : bt.toNat < 128
      · obtain ⟨s', hb⟩ := hlast hbt
        rw [Go.seq_ret (Go.loop_ret hc hb ..)]
        simp only [toRes, decVarintLoop, hbt, if_true, hacc, toNat_ofNat_lt (w := 64) (Nat.lt_of_le_of_lt hk9 (by decide))]
      · obtain ⟨s₁, b', hb, hp⟩ := hmore hbt
        rw [Go.seq_congr (Go.loop_step hc hb hp fuel), ih (k + 1) (by omega) _ b' fuel (by omega), hacc]
        have hrest : p.drop (k + 1) = rest := by rw [← List.drop_drop, hd]; rfl
        simp only [decVarintLoop, hbt, if_false, hrest, Nat.mul_add, Nat.mul_one]

abbrev loop1St (p : Bytes) (v : BitVec 64) (k : Nat) (e : Go.Err) (b i : BitVec 64) : DecodeVarint.St :=
  { p := p, v := v, n := BitVec.ofNat 64 k, err := e, shift := BitVec.ofNat 64 (7 * k), b := b, i := i }

theorem DecodeVarint_body1_eof (fB : Nat) (p : Bytes) (hp : p.length < 2 ^ 63) (v : BitVec 64) (k : Nat) (hk : k ≤ 10) (e : Go.Err) (b i : BitVec 64)
    (hlen : p.length ≤ k) :
    DecodeVarint.loop1.body fB (loop1St p v k e b i) = .ret (0#64, 0#64, Go.Err.unexpectedEOF) (loop1St p v k e b i) := by
  have hsle := sle_ofNat p.length k hp (Nat.lt_of_le_of_lt hk (by decide))
  simp only [DecodeVarint.loop1.body, Go.seq, hsle, hlen, decide_true, ↓reduceIte, loop1St]

theorem DecodeVarint_body1_byte (fB : Nat) (p : Bytes) (hp : p.length < 2 ^ 63) (v : BitVec 64) (k : Nat) (hk : k ≤ 10) (e : Go.Err) (b i : BitVec 64)
    (bt : UInt8) (rest : Bytes) (hd : p.drop k = bt :: rest) :
    DecodeVarint.loop1.body fB (loop1St p v k e b i) =
      if bt.toNat < 128 then
        .ret (acc7 v bt k, BitVec.ofNat 64 (k + 1), Go.Err.nil) { loop1St p (acc7 v bt k) (k + 1) e (BitVec.setWidth 64 bt.toBitVec) i with shift := BitVec.ofNat 64 (7 * k) }
      else
        .next { loop1St p (acc7 v bt k) (k + 1) e (BitVec.setWidth 64 bt.toBitVec) i with shift := BitVec.ofNat 64 (7 * k) } := by
  have hklt := Go.lt_of_drop_cons hd
  have hsle := sle_ofNat p.length k hp (Nat.lt_of_le_of_lt hk (by decide))
  have hrd := Go.rd_drop p k bt rest hd
  have hk' : (BitVec.ofNat 64 k).toNat = k := toNat_ofNat_lt (Nat.lt_of_le_of_lt hk (by decide))
  have hnle : ¬ p.length ≤ k := by omega
  have hstop := stop_bit bt
  by_cases hb : bt.toNat < 128
  · simp only [DecodeVarint.loop1.body, Go.seq, hsle, hnle, decide_false, Bool.false_eq_true, ↓reduceIte, Go.skip, loop1St, hk', hklt,
      hrd, hstop, hb, decide_true, BitVec.ofNat_add_ofNat, acc7]
  · simp only [DecodeVarint.loop1.body, Go.seq, hsle, hnle, decide_false, Bool.false_eq_true, ↓reduceIte, Go.skip, loop1St, hk', hklt,
      hrd, hstop, hb, BitVec.ofNat_add_ofNat, acc7]

theorem DecodeVarint_loop1_eq (fuelB : Nat) (p : Bytes) (hp : p.length < 2 ^ 63) (d k : Nat) (hk : k + d = 10) (v : BitVec 64) (e : Go.Err)
    (b i : BitVec 64) (fuel : Nat) (hf : d + 1 ≤ fuel) :
    toRes (Go.seq (Go.loop DecodeVarint.loop1.cond (DecodeVarint.loop1.body fuelB) DecodeVarint.loop1.post fuel) ovf
        (loop1St p v k e b i))
      = (match decVarintLoop d (7 * k) v.toNat k (p.drop k) with | .ok r => .ok r | _ => .err) := by
  refine varint_loop p (fun v k b => loop1St p v k e b i) ?_ ?_ ?_ d k hk v b fuel hf
  · intro v k b hk
    -- `shift < 64` with `shift = 7k`
    rw [DecodeVarint.loop1.cond, loop1St, ult_ofNat (7 * k) 64 (Nat.lt_of_le_of_lt (Nat.mul_le_mul_left 7 hk) (by decide)) (by decide)]
    exact congrArg some (decide_eq_decide.mpr (by omega))
  · intro v k b hk hlen
    exact ⟨_, DecodeVarint_body1_eof fuelB p hp v k (by omega) e b i hlen⟩
  · intro v k b bt rest hk hd
    have hbody := DecodeVarint_body1_byte fuelB p hp v k (by omega) e b i bt rest hd
    refine ⟨fun hb => ⟨_, by rw [hbody, if_pos hb]⟩, fun hb => ⟨_, BitVec.setWidth 64 bt.toBitVec, by rw [hbody, if_neg hb], ?_⟩⟩
    simp only [DecodeVarint.loop1.post, loop1St, BitVec.ofNat_add_ofNat, Nat.mul_add, Nat.mul_one]

abbrev loop2St (p : Bytes) (v : BitVec 64) (n : BitVec 64) (e : Go.Err) (k : Nat) (b : BitVec 64) : DecodeVarint.St :=
  { p := p, v := v, n := n, err := e, shift := BitVec.ofNat 64 (7 * k), b := b, i := BitVec.ofNat 64 k }

theorem DecodeVarint_body2_byte (fB : Nat) (p : Bytes) (v n : BitVec 64) (k : Nat) (hk : k ≤ 10) (e : Go.Err) (b : BitVec 64)
    (bt : UInt8) (rest : Bytes) (hd : p.drop k = bt :: rest) :
    DecodeVarint.loop2.body fB (loop2St p v n e k b) =
      if bt.toNat < 128 then
        .ret (acc7 v bt k, BitVec.ofNat 64 (k + 1), Go.Err.nil) (loop2St p (acc7 v bt k) n e k (BitVec.setWidth 64 bt.toBitVec))
      else
        .next (loop2St p (acc7 v bt k) n e k (BitVec.setWidth 64 bt.toBitVec)) := by
  have hklt := Go.lt_of_drop_cons hd
  have hrd := Go.rd_drop p k bt rest hd
  have hk' : (BitVec.ofNat 64 k).toNat = k := toNat_ofNat_lt (Nat.lt_of_le_of_lt hk (by decide))
  have hstop := stop_bit bt
  by_cases hb : bt.toNat < 128
  · simp only [DecodeVarint.loop2.body, Go.seq, hk', hklt, ↓reduceIte, hrd, hstop, hb, decide_true, BitVec.ofNat_add_ofNat, loop2St, acc7]
  · simp only [DecodeVarint.loop2.body, Go.seq, hk', hklt, ↓reduceIte, hrd, hstop, hb, decide_false, Bool.false_eq_true, Go.skip, loop2St, acc7]

theorem DecodeVarint_loop2_eq (fuelB : Nat) (p : Bytes) (hp10 : 10 ≤ p.length) (d k : Nat) (hk : k + d = 10) (v n : BitVec 64) (e : Go.Err)
    (b : BitVec 64) (fuel : Nat) (hf : d + 1 ≤ fuel) :
    toRes (Go.seq (Go.loop DecodeVarint.loop2.cond (DecodeVarint.loop2.body fuelB) DecodeVarint.loop2.post fuel) ovf
        (loop2St p v n e k b))
      = (match decVarintLoop d (7 * k) v.toNat k (p.drop k) with | .ok r => .ok r | _ => .err) := by
  refine varint_loop p (fun v k b => loop2St p v n e k b) ?_ ?_ ?_ d k hk v b fuel hf
  · intro v k b hk
    exact congrArg some (slt_ofNat k 10 (Nat.lt_of_le_of_lt hk (by decide)) (by decide))
  · intro v k b hk hlen
    omega
  · intro v k b bt rest hk hd
    have hbody := DecodeVarint_body2_byte fuelB p v n k (by omega) e b bt rest hd
    refine ⟨fun hb => ⟨_, by rw [hbody, if_pos hb]⟩, fun hb => ⟨_, BitVec.setWidth 64 bt.toBitVec, by rw [hbody, if_neg hb], ?_⟩⟩
    simp only [DecodeVarint.loop2.post, loop2St, BitVec.ofNat_add_ofNat, Nat.mul_add, Nat.mul_one]

/- The five top-level statements of `DecodeVarint`: the empty input, the one-byte fast path, the loop for fewer than ten bytes,
   and for ten or more the first byte and the loop over bytes 2–10. -/
def dvEmpty : DecodeVarint.St → Go.Out DecodeVarint.St DecodeVarint.R :=
  (fun s => if ((BitVec.ofNat 64 s.p.length) == 0#64) then (fun s => .ret (0#64, 0#64, Go.Err.invalidVarint) s) s else Go.skip s)
def dvOneByte : DecodeVarint.St → Go.Out DecodeVarint.St DecodeVarint.R :=
  (fun s => if ((0#64).toNat < s.p.length) then if (BitVec.ult (Go.rd s.p (0#64).toNat) 128#8) then (fun s => if ((0#64).toNat < s.p.length) then .ret ((BitVec.setWidth 64 (Go.rd s.p (0#64).toNat)), 1#64, Go.Err.nil) s else .panic) s else Go.skip s else .panic)
def dvShort (fuel : Nat) : DecodeVarint.St → Go.Out DecodeVarint.St DecodeVarint.R :=
  (fun s => if (BitVec.slt (BitVec.ofNat 64 s.p.length) 10#64) then (Go.seq (Go.seq (fun s => .next { s with shift := 0#64 }) (Go.loop DecodeVarint.loop1.cond (DecodeVarint.loop1.body fuel) DecodeVarint.loop1.post fuel))
    ovf) s else Go.skip s)
def dvFirst : DecodeVarint.St → Go.Out DecodeVarint.St DecodeVarint.R :=
  (fun s => if ((0#64).toNat < s.p.length) then .next { s with v := (BitVec.setWidth 64 ((Go.rd s.p (0#64).toNat) &&& 127#8)) } else .panic)
def dvLong (fuel : Nat) : DecodeVarint.St → Go.Out DecodeVarint.St DecodeVarint.R :=
  (Go.seq (Go.seq (fun s => .next { s with i := 1#64, shift := 7#64 }) (Go.loop DecodeVarint.loop2.cond (DecodeVarint.loop2.body fuel) DecodeVarint.loop2.post fuel))
    ovf)

/-- the shape of the translated body (fails to elaborate when the source function is restructured) -/
theorem DecodeVarint_unfold (fuel : Nat) (p : Bytes) :
    DecodeVarint fuel p = Go.seq (Go.seq dvEmpty (Go.seq dvOneByte (Go.seq (dvShort fuel) (Go.seq dvFirst (dvLong fuel))))) Go.missingReturn { p := p } := rfl

/-- whatever the loop does, `loop; return overflow` does not fall through to the statements behind it -/
theorem seq_ovf (l X : DecodeVarint.St → Go.Out DecodeVarint.St DecodeVarint.R) (s : DecodeVarint.St) :
    Go.seq (Go.seq l ovf) X s = Go.seq l ovf s := by
  unfold Go.seq; cases l s <;> rfl

theorem dvLong_seq (fuel : Nat) (X : DecodeVarint.St → Go.Out DecodeVarint.St DecodeVarint.R) (s : DecodeVarint.St) :
    Go.seq (dvLong fuel) X s = dvLong fuel s :=
  seq_ovf _ X s

/-- `uint64(p[0] & 0x7f)`, the accumulator before the second loop -/
theorem low7_toNat (b : UInt8) : (BitVec.setWidth 64 (b.toBitVec &&& 127#8)).toNat = b.toNat % 128 := by
  have h1 : b.toNat &&& 127 = b.toNat % 128 := Nat.and_two_pow_sub_one_eq_mod b.toNat 7
  simp only [BitVec.toNat_setWidth, BitVec.toNat_and, UInt8.toNat_toBitVec, BitVec.toNat_ofNat]
  rw [show (127 % 2 ^ 8) = 127 by decide, h1]
  exact Nat.mod_eq_of_lt (Nat.lt_trans (Nat.mod_lt _ (by decide)) (by decide))

/-- **`DecodeVarint` of the source = `decodeVarint` of the model**, for every input a Go slice can hold -/
theorem DecodeVarint_eq (fuel : Nat) (hf : 11 ≤ fuel) (p : Bytes) (hp : p.length < 2 ^ 63) :
    toRes (DecodeVarint fuel p) = (match decodeVarint p with | .ok r => .ok r | _ => .err) := by
  rw [DecodeVarint_unfold]
  cases p with
  | nil => rfl
  | cons b0 rest =>
    have hEmpty : dvEmpty { p := b0 :: rest } = .next { p := b0 :: rest } := by
      have : ¬ (BitVec.ofNat 64 (b0 :: rest).length == 0#64) = true := by
        rw [beq_eq_decide_toNat, toNat_ofNat_63 hp, decide_eq_true_eq]; exact Nat.succ_ne_zero _
      exact if_neg this
    have hult : BitVec.ult (Go.rd (b0 :: rest) (0#64).toNat) 128#8 = decide (b0.toNat < 128) := BitVec.ult_eq_decide
    rw [Go.seq_assoc, Go.seq_next hEmpty, Go.seq_assoc]
    by_cases hb : b0.toNat < 128
    · have hOne : dvOneByte { p := b0 :: rest } = .ret (BitVec.setWidth 64 b0.toBitVec, 1#64, Go.Err.nil) { p := b0 :: rest } := by
        simp only [dvOneByte, hult, hb]; rfl
      rw [Go.seq_ret hOne, setWidth_u8]
      simp only [toRes, decodeVarint, hb, if_true, toNat_ofNat_lt (w := 64) (Nat.lt_trans b0.toNat_lt (by decide))]
      rfl
    · have hOne : dvOneByte { p := b0 :: rest } = .next { p := b0 :: rest } := by
        simp only [dvOneByte, hult, hb]; rfl
      have hslt := slt_ofNat (b0 :: rest).length 10 hp (by decide)
      rw [Go.seq_next hOne, Go.seq_assoc]
      by_cases h10 : (b0 :: rest).length < 10
      · have hShort : dvShort fuel { p := b0 :: rest } =
            Go.seq (Go.loop DecodeVarint.loop1.cond (DecodeVarint.loop1.body fuel) DecodeVarint.loop1.post fuel) ovf
              (loop1St (b0 :: rest) 0#64 0 Go.Err.nil 0#64 0#64) := by
          simp only [dvShort, hslt, h10, decide_true, if_true]; rfl
        rw [Go.seq_congr hShort, seq_ovf, DecodeVarint_loop1_eq fuel (b0 :: rest) hp 10 0 rfl 0#64 Go.Err.nil 0#64 0#64 fuel hf]
        simp only [decodeVarint, hb, if_false]
        rfl
      · -- ten bytes or more: the first byte by hand, then bytes 2..10
        have hShort : dvShort fuel { p := b0 :: rest } = .next { p := b0 :: rest } := by
          simp only [dvShort, hslt, h10, decide_false]; rfl
        have hFirst : dvFirst { p := b0 :: rest } = .next { p := b0 :: rest, v := BitVec.setWidth 64 (b0.toBitVec &&& 127#8) } := rfl
        have hLong : dvLong fuel { p := b0 :: rest, v := BitVec.setWidth 64 (b0.toBitVec &&& 127#8) } =
            Go.seq (Go.loop DecodeVarint.loop2.cond (DecodeVarint.loop2.body fuel) DecodeVarint.loop2.post fuel) ovf
              (loop2St (b0 :: rest) (BitVec.setWidth 64 (b0.toBitVec &&& 127#8)) 0#64 Go.Err.nil 1 0#64) := rfl
        have hmodel : decodeVarint (b0 :: rest) = decVarintLoop 9 7 (b0.toNat % 128) 1 rest := by
          have e : (0 ||| ((b0.toNat % 128) <<< 0) % two64) = b0.toNat % 128 := by
            rw [two64_eq, Nat.zero_or, Nat.shiftLeft_zero]
            exact Nat.mod_eq_of_lt (Nat.lt_trans (Nat.mod_lt _ (by decide)) (by decide))
          simp only [decodeVarint, hb, if_false, decVarintLoop, e, Nat.zero_add]
        rw [Go.seq_next hShort, Go.seq_assoc, Go.seq_next hFirst, dvLong_seq, hLong,
          DecodeVarint_loop2_eq fuel (b0 :: rest) (Nat.le_of_not_lt h10) 9 1 rfl _ 0#64 Go.Err.nil 0#64 fuel (Nat.le_of_succ_le hf), low7_toNat, hmodel]
        rfl

theorem toRes_eq (o : Go.Out DecodeVarint.St DecodeVarint.R) : toRes o = outRes BitVec.toNat o := by
  cases o with
  | ret x c => obtain ⟨v, n, e⟩ := x; cases e <;> rfl
  | _ => rfl

theorem reads_varint (fuel : Nat) (hf : 11 ≤ fuel) (q : Bytes) (hq : q.length < 2 ^ 63) :
    Reads (DecodeVarint fuel q) (decodeVarint q) BitVec.toNat q.length := by
  have E := (toRes_eq _).symm.trans (DecodeVarint_eq fuel hf q hq)
  exact .of_outRes (fun x h => by rw [E, h]) (fun h => by rw [E, h]) (decodeVarint_ok q).1
    fun _ _ h => ⟨decodeVarint_pos h, (decodeVarint_ok q).2 _ _ h⟩

/-- **the source's `EncodeVarint` followed by the source's `DecodeVarint` is the identity**: for every 64-bit value and
    every destination buffer with room (whatever it held before), running the TRANSLATION of `EncodeVarint` and then the
    TRANSLATION of `DecodeVarint` on the buffer returns the value and the number of bytes written.  No model function
    occurs in the statement: it is a theorem about the two Go functions as they are in `/repo`. -/
theorem translated_varint_roundtrip (fuel : Nat) (hf : 11 ≤ fuel) (v : BitVec 64) (dest : Bytes)
    (hroom : 10 ≤ dest.length) (hlen : dest.length < 2 ^ 63) :
    ∃ n s', EncodeVarint fuel dest v = .ret n s' ∧ s'.dest.length = dest.length ∧
      toRes (DecodeVarint fuel s'.dest) = .ok (v.toNat, n.toNat) := by
  have hv : v.toNat < two64 := by rw [two64_eq]; exact v.isLt
  have h10 := encVarint_length_le_10 hv
  obtain ⟨s', h1, h2⟩ := EncodeVarint_ok fuel dest v (Nat.le_of_succ_le hf) (Nat.le_trans h10 hroom)
  have hl : s'.dest.length = dest.length := by rw [h2]; exact length_overwrite _ _ (Nat.le_trans h10 hroom)
  refine ⟨_, s', h1, hl, ?_⟩
  rw [DecodeVarint_eq fuel hf s'.dest (hl ▸ hlen), h2, decodeVarint_encVarint v.toNat hv,
    toNat_ofNat_lt (Nat.lt_of_le_of_lt h10 (by decide))]

end Csproto.Bridge.WireFuncs
