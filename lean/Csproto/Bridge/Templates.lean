import Csproto.Generated.Templates
import Csproto.Model.Gen
/-
  Bridge between the templates of protoc-gen-fastmarshal (facts regenerated from
  /repo/cmd/protoc-gen-fastmarshal/templates on every run) and the structural assumptions the model of
  the generated code (`Model/Gen.lean`, `Model/GenDec.lean`) makes.
  If a template edit invalidates one of them, the corresponding lemma fails and the properties built
  on the model are no longer shown for the code.
-/
namespace Csproto.Bridge.Templates
open Csproto.Generated

/-- the kinds of the protobuf language (the model's `SK` plus message) -/
def allKinds : List String :=
  ["double", "float", "int32", "int64", "uint32", "uint64", "sint32", "sint64", "fixed32", "fixed64",
   "sfixed32", "sfixed64", "bool", "string", "bytes", "enum", "message"]

/-- the model has one scalar kind per template kind -/
theorem kinds_cover_model : allKinds.length = 17 := by decide

/-- **`SizeOfField`, `MarshalField`, `UnmarshalField` route every kind to exactly one snippet**: the
    three dispatchers are sequences of independent `if`s, so a kind listed twice would be generated
    twice and a kind not listed would silently produce no code (the field would be dropped).  In one
    word: the kinds each of them tests are a permutation of the kinds of the language. -/
theorem dispatch_perm :
    allKinds.Nodup ∧ sizeDispatchKinds.Perm allKinds ∧ marshalDispatchKinds.Perm allKinds ∧
    unmarshalDispatchKinds.Perm allKinds := by decide +kernel

theorem routes_once {l ks : List String} (hks : ks.Nodup) (h : l.Perm ks) :
    (∀ k ∈ ks, l.count k = 1) ∧ ∀ k ∈ l, k ∈ ks :=
  ⟨fun k hk => by rw [h.count_eq, hks.count, if_pos hk], fun _ hk => h.subset hk⟩

theorem size_dispatch_total : ∀ k ∈ allKinds, sizeDispatchKinds.count k = 1 :=
  (routes_once dispatch_perm.1 dispatch_perm.2.1).1
theorem marshal_dispatch_total : ∀ k ∈ allKinds, marshalDispatchKinds.count k = 1 :=
  (routes_once dispatch_perm.1 dispatch_perm.2.2.1).1
theorem unmarshal_dispatch_total : ∀ k ∈ allKinds, unmarshalDispatchKinds.count k = 1 :=
  (routes_once dispatch_perm.1 dispatch_perm.2.2.2).1
theorem dispatch_nothing_else :
    (∀ k ∈ sizeDispatchKinds, k ∈ allKinds) ∧ (∀ k ∈ marshalDispatchKinds, k ∈ allKinds) ∧
    (∀ k ∈ unmarshalDispatchKinds, k ∈ allKinds) :=
  ⟨(routes_once dispatch_perm.1 dispatch_perm.2.1).2, (routes_once dispatch_perm.1 dispatch_perm.2.2.1).2,
   (routes_once dispatch_perm.1 dispatch_perm.2.2.2).2⟩

/-- the oneof and extension snippets are if/else chains over the kind (first match wins, so an arm listed twice is
    harmless): every kind has an arm in each of the seven -/
theorem chains_cover :
    (∀ k ∈ allKinds, k ∈ sizeOneofKinds) ∧ (∀ k ∈ allKinds, k ∈ marshalOneofKinds) ∧
    (∀ k ∈ allKinds, k ∈ unmarshalOneofKinds) ∧
    (∀ k ∈ allKinds, k ∈ sizeExtensionKinds) ∧ (∀ k ∈ allKinds, k ∈ marshalExtensionKinds) ∧
    (∀ k ∈ allKinds, k ∈ unmarshalExtensionKinds) ∧ (∀ k ∈ allKinds, k ∈ unmarshalRepeatedExtensionKinds) := by
  decide +kernel

theorem oneof_arms_total :
    (∀ k ∈ allKinds, k ∈ sizeOneofKinds) ∧ (∀ k ∈ allKinds, k ∈ marshalOneofKinds) ∧
    (∀ k ∈ allKinds, k ∈ unmarshalOneofKinds) :=
  ⟨chains_cover.1, chains_cover.2.1, chains_cover.2.2.1⟩

theorem extension_arms_total :
    (∀ k ∈ allKinds, k ∈ sizeExtensionKinds) ∧ (∀ k ∈ allKinds, k ∈ marshalExtensionKinds) ∧
    (∀ k ∈ allKinds, k ∈ unmarshalExtensionKinds) ∧ (∀ k ∈ allKinds, k ∈ unmarshalRepeatedExtensionKinds) :=
  chains_cover.2.2.2
/-- each extension snippet has an arm of its own for a REPEATED extension (which walks the slice / appends to it) —
    the model's `Ext.extFD … true = Card.list`, `Ext.extFD … false = Card.explicit` -/
theorem extension_repeated_arms :
    extensionRepeatedArms = [("SizeOfExtension", true), ("MarshalExtension", true), ("UnmarshalExtension", true)] ∧
    repeatedExtensionAppends = true := ⟨rfl, rfl⟩

/-- `UnmarshalNumber` has an arm for every kind `UnmarshalField` sends to it -/
theorem number_arms_total :
    ∀ k ∈ ["bool", "int32", "int64", "uint32", "uint64", "sint32", "sint64", "fixed32", "float",
           "fixed64", "double", "enum"], k ∈ unmarshalNumberKinds := by decide +kernel

/-- **C09**: the generated `Size()`/`Marshal()`/`MarshalTo()` do not consult (or write) a size cache:
    in the model they are functions of the message contents alone, as `Gen.sizeFields`/`Gen.marshal` are -/
theorem no_size_cache : sizeCacheMentions = 0 := rfl

/-- **C04 – C10, C16, C17 (the quantifier "× generator options")**: the options the generator accepts are exactly the
    ones the model and the corpus pipeline account for — `apiversion` / `specialname` / `dest` choose names (import
    paths, Go field names, the output path) and `debug` writes to stderr: none of them reaches a snippet's logic;
    `filepermessage` selects the per-message file template, whose routing facts are regenerated alongside the
    single-file ones; `enableunsafedecode` is the decoder-mode parameter `fast` of `Gen.unmarshal`. An option that is
    added to (or dropped from) the generator makes this lemma fail: what the new option does to the generated
    code is then not covered by any theorem about the model until the model learns about it. (Independently of this
    lemma the corpus pipeline generates, compiles and runs every schema with every boolean option it discovers
    here switched on — `genpipe.BoolOptions`.) -/
theorem generator_options_known :
    generatorOptions = [("apiversion", "value"), ("dest", "string"), ("debug", "bool"), ("filepermessage", "bool"),
      ("specialname", "value"), ("enableunsafedecode", "bool")] := rfl

/-- **C07 (and C06, C08)**: neither the generator's Go code nor its templates look at the `reserved` declarations
    of a message: a reserved number is, to the generated `Unmarshal`, a number the message type does not define —
    `findField md num = none` in the model, the `default:` arm of the generated switch — and is retained like any
    other unknown field -/
theorem generator_ignores_reserved : reservedMentions = 0 := rfl

/-- **C07**: in both file templates `Size()` counts the unknown fields, `MarshalTo` writes them with
    `EncodeRaw` after the known fields, and `Unmarshal` appends every skipped field to them -/
theorem unknown_fields_handled : ∀ t ∈ unknownHandling, t.2.1 = true ∧ t.2.2.1 = true ∧ t.2.2.2 = true := by decide
theorem unknown_fields_both_templates : unknownHandling.map (·.1) = ["singlefile.go.tmpl", "permessage.go.tmpl"] := rfl

/-- **C07 / C09 (ownership of the result)**: in both file templates `Marshal()` fills a buffer it allocates in that
    very call (`buf := make([]byte, siz)`, never re-assigned) and every `return` hands out either that buffer or
    the empty literal — never a slice the message keeps (its retained unknown bytes, a cached encoding): the
    result is the caller's, which is what the model assumes by treating the result as a VALUE (`Gen.marshal`
    returns `Bytes`, later writes to it cannot reach the message) -/
theorem marshal_result_is_fresh :
    ∀ t ∈ marshalReturns, t.2.1 = true ∧ ∀ r ∈ t.2.2, r = "[]byte{}, nil" ∨ r = "buf, err" := by decide +kernel
theorem marshal_result_both_templates : marshalReturns.map (·.1) = ["singlefile.go.tmpl", "permessage.go.tmpl"] := rfl

/-- **C07**: nothing in the hand-written package — which the generated `Unmarshal` calls into in the middle of
    its loop (`csproto.SetExtension` in the extension arms, the `Decoder`) — reads or writes a message's
    unknown-field storage: the retained bytes change only where the model says they do (the `default:` arm
    of the generated loop appends, `Reset` clears) -/
theorem shim_leaves_unknown_store_alone : shimUnknownStoreMentions = 0 := rfl

/-- **C17**: the empty shortcuts of `Marshal`/`Unmarshal` are only generated for message types without
    required fields, `Unmarshal` ends with the required-field check, and no `EncodeNested` error is dropped -/
theorem required_guards : ∀ t ∈ requiredGuards, t.2.1 = true ∧ t.2.2.1 = true ∧ t.2.2.2 = true := by decide
theorem encodeNested_errors_checked : ∀ s ∈ encodeNestedSites, s.2 = true := by decide
theorem encodeNested_sites_known : 5 ≤ encodeNestedSites.length := by decide

/-- **C10**: no `DecodeBytes` result is stored into a message without the safe-mode copy -/
theorem bytes_never_aliased_in_safe_mode : ∀ s ∈ decodeBytesSites, s.2 = "copied" ∨ s.2 = "subdecoder" := by decide +kernel
theorem bytes_sites_known : ["UnmarshalBytes", "UnmarshalMapEntry", "UnmarshalOneOf", "UnmarshalExtension"].all
    (fun d => decodeBytesSites.any (fun s => s.1 == d && s.2 == "copied")) = true := by decide +kernel

/-- **C06**: `Unmarshal` starts with `m.Reset()`: its result cannot depend on the destination's contents -/
theorem unmarshal_resets_first : ∀ t ∈ unmarshalResetsFirst, t.2 = true := by decide
theorem unmarshal_resets_both : unmarshalResetsFirst.length = 2 := rfl

/-- **C09**: the order in which `Size()` sizes and `MarshalTo` writes the proto2 extensions is fixed when the
    code is generated (`range getExtensions` over the per-extension snippet, in both file templates); no
    template enumerates the extensions the *runtime* holds (`RangeExtensions` / `ExtensionDescs` walk a Go map,
    whose order changes from call to call) -/
theorem extension_order_is_static :
    extensionLoops = [("singlefile.go.tmpl", true, true), ("permessage.go.tmpl", true, true)] ∧
    runtimeOrderedIteration = 0 := ⟨rfl, rfl⟩

end Csproto.Bridge.Templates
