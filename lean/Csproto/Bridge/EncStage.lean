import Csproto.Bridge.WireFuncs2
import Csproto.Model.Enc
import Csproto.Proofs.Enc
import Csproto.Proofs.Wire
/-
  What the translated `(*Encoder)` methods are made of, over an ABSTRACT state type `σ` (each translated method has a state
  structure of its own) with buffer `buf`, cursor `cur` and `set` writing both. The generated `Encoder_*` bodies are built
  from the statements `advance` and `storeBool` (`EncodeBytes` and `EncodeRaw` end with a `copy`) by `Go.seq` and
  `Go.forEach`; `Writes` is what such a statement does, and is kept by sequencing (`Writes.seq`) and `range` loops
  (`Writes.forEach`); `Refines` ties a method that `Writes` and returns to the model's `Enc.step` (`Writes.refines`,
  `keyValue_refines`).
-/
namespace Csproto.Bridge.EncoderFuncs
open Csproto Csproto.Generated.WireFuncs Csproto.Bridge Csproto.Bridge.WireFuncs

theorem take_append_eq_writeAt (p : Bytes) (off : Nat) (bs : Bytes) :
    p.take off ++ (bs ++ (p.drop off).drop bs.length) = writeAt p off bs := by
  rw [writeAt, List.drop_drop, List.append_assoc]

theorem adv_toNat (off : BitVec 64) (k : Nat) (h : off.toNat + k < 2 ^ 64) :
    (off + BitVec.ofNat 64 k).toNat = off.toNat + k := by
  rw [BitVec.toNat_add, BitVec.toNat_ofNat, Nat.mod_eq_of_lt (Nat.lt_of_le_of_lt (Nat.le_add_left _ _) h), Nat.mod_eq_of_lt h]

theorem store_ok (p : Bytes) (off : Nat) (bs : Bytes) (h : off + bs.length ≤ p.length) :
    ({ buf := p, off := off } : Enc).store bs = .ok { buf := writeAt p off bs, off := off + bs.length } :=
  if_pos h

theorem store_panic (p : Bytes) (off : Nat) (bs : Bytes) (h : ¬ off + bs.length ≤ p.length) :
    ({ buf := p, off := off } : Enc).store bs = .panic :=
  if_neg h

theorem writeAt_writeAt (p : Bytes) (off : Nat) (a b : Bytes) (h : off + a.length + b.length ≤ p.length) :
    writeAt (writeAt p off a) (off + a.length) b = writeAt p off (a ++ b) := by
  have ha : off + a.length ≤ p.length := Nat.le_trans (Nat.le_add_right _ _) h
  have hl : (p.take off ++ a).length = off + a.length := by
    rw [List.length_append, List.length_take, Nat.min_eq_left (Nat.le_trans (Nat.le_add_right _ _) ha)]
  have hd : (writeAt p off a).drop (off + a.length + b.length) = p.drop (off + a.length + b.length) := by
    unfold writeAt
    rw [← List.drop_drop, List.drop_left' hl, List.drop_drop]
  rw [writeAt, writeAt_take ha, hd, writeAt, List.length_append, Nat.add_assoc]
  simp only [List.append_assoc]

theorem set_writeAt (q : Bytes) (i : Nat) (b : UInt8) (h : i < q.length) : q.set i b = writeAt q i [b] := by
  rw [List.set_eq_take_append_cons_drop]
  simp [h, writeAt]

theorem wr_boolByte (q : Bytes) (i : Nat) (x : Bool) (h : i < q.length) :
    Go.wr q i (if x then 1#8 else 0#8) = writeAt q i [boolByte x] := by
  unfold Go.wr
  rw [set_writeAt _ _ _ h]
  cases x <;> rfl

/-- the contract of a translated primitive: the call `W` on `dest` stores `bs` at its start and returns `len(bs)`; it panics
    when `dest` is shorter than that.  `EncodeVarint`, `EncodeTag`, `EncodeZigZag32/64` have it by their `_ok` / `_short`
    pairs (`Bridge/WireFuncs`, `WireFuncs2`); for `EncodeFixed32/64` it is proved below and the pair read off it. -/
def Emits {τ : Type} (W : Go.Out τ (BitVec 64)) (dst : τ → Bytes) (dest bs : Bytes) : Prop :=
  (bs.length ≤ dest.length → ∃ c, W = .ret (BitVec.ofNat 64 bs.length) c ∧ dst c = bs ++ dest.drop bs.length) ∧
  (dest.length < bs.length → W = .panic)

/-- `e.offset += W(e.p[e.offset:], …)` as the translator renders it in a method whose state `σ` holds the buffer (`buf`) and
    the cursor (`cur`; `set` writes both): Go's slice-bounds check, the call — whose stores write through to `e.p`, callee
    and caller share the backing array — and the cursor update. -/
def advance {σ τ ρ : Type} (buf : σ → Bytes) (cur : σ → BitVec 64) (set : σ → Bytes → BitVec 64 → σ)
    (W : σ → Bytes → Go.Out τ (BitVec 64)) (dst : τ → Bytes) : σ → Go.Out σ ρ := fun s =>
  if (cur s).toNat ≤ (buf s).length then
    match W s ((buf s).drop (cur s).toNat) with
    | .ret r c => .next (set s ((buf s).take (cur s).toNat ++ dst c) (cur s + r))
    | .next _ => .panic
    | .panic => .panic
    | .diverge => .diverge
  else .panic

/-- `if v { e.p[e.offset] = 1 } else { e.p[e.offset] = 0 }; e.offset++`, each store behind Go's index check -/
def storeBool {σ ρ : Type} (buf : σ → Bytes) (cur : σ → BitVec 64) (set : σ → Bytes → BitVec 64 → σ) (v : σ → Bool) :
    σ → Go.Out σ ρ :=
  Go.seq (fun s => if v s then (fun s => if (cur s).toNat < (buf s).length then .next (set s (Go.wr (buf s) (cur s).toNat 1#8) (cur s)) else .panic) s
      else (fun s => if (cur s).toNat < (buf s).length then .next (set s (Go.wr (buf s) (cur s).toNat 0#8) (cur s)) else .panic) s)
    (fun s => .next (set s (buf s) (cur s + 1#64)))

/-- `out` is the outcome of a statement run with buffer `p` and cursor `off` that stores `bs` at the cursor: it falls through with
    `bs` in place, the cursor behind it and `Q` of the new state, or panics when `bs` does not fit.  `Q` is what the next
    statement needs of the other fields: nothing (`fun _ => True`), or that they are untouched (`∃ b c, s' = set s b c`) -/
def Writes {σ ρ : Type} (buf : σ → Bytes) (cur : σ → BitVec 64) (p : Bytes) (off : Nat) (bs : Bytes) (Q : σ → Prop)
    (out : Go.Out σ ρ) : Prop :=
  (off + bs.length ≤ p.length → ∃ s', out = .next s' ∧ buf s' = writeAt p off bs ∧ (cur s').toNat = off + bs.length ∧ Q s') ∧
  (¬ off + bs.length ≤ p.length → out = .panic)

section
variable {σ ρ : Type} {buf : σ → Bytes} {cur : σ → BitVec 64}

theorem Writes.seq_cases {A rest : σ → Go.Out σ ρ} {M : Go.Out σ ρ} {s : σ} {p : Bytes} {off : Nat} {bs : Bytes} {Q : σ → Prop}
    (hA : Writes buf cur p off bs Q (A s)) (hM : M = Go.seq A rest s) :
    (off + bs.length ≤ p.length → ∃ s', M = rest s' ∧ buf s' = writeAt p off bs ∧ (cur s').toNat = off + bs.length ∧ Q s') ∧
    (¬ off + bs.length ≤ p.length → M = .panic) :=
  ⟨fun h => let ⟨s', h1, hr⟩ := hA.1 h; ⟨s', hM.trans (Go.seq_next h1 rest), hr⟩, fun h => hM.trans (Go.seq_panic (hA.2 h) rest)⟩

theorem Writes.mono {p : Bytes} {off : Nat} {bs : Bytes} {Q R : σ → Prop} {out : Go.Out σ ρ}
    (h : Writes buf cur p off bs Q out) (hQR : ∀ s, Q s → R s) : Writes buf cur p off bs R out :=
  ⟨fun hf => let ⟨s', h1, h2, h3, h4⟩ := h.1 hf; ⟨s', h1, h2, h3, hQR s' h4⟩, h.2⟩

theorem Writes.seq {A B : σ → Go.Out σ ρ} {s : σ} {p : Bytes} {off : Nat} {a b : Bytes} {Q : σ → Prop} {R : σ → σ → Prop}
    (hA : Writes buf cur p off a Q (A s))
    (hB : ∀ s', (buf s').length = p.length → (cur s').toNat ≤ (buf s').length → Q s' →
      Writes buf cur (buf s') (cur s').toNat b (R s') (B s')) :
    Writes buf cur p off (a ++ b) (fun s₂ => ∃ s₁, Q s₁ ∧ R s₁ s₂) (Go.seq A B s) := by
  obtain ⟨hfit, hshort⟩ := hA.seq_cases (rest := B) rfl
  by_cases ha : off + a.length ≤ p.length
  · obtain ⟨s1, h1, hb1, hc1, hq1⟩ := hfit ha
    have hl1 : (buf s1).length = p.length := by rw [hb1, writeAt_length ha]
    have hB1 := hB s1 hl1 (by rw [hl1, hc1]; exact ha) hq1
    rw [hb1, hc1, Writes, writeAt_length ha] at hB1
    rw [h1, Writes, List.length_append, ← Nat.add_assoc]
    refine ⟨fun hab => ?_, hB1.2⟩
    obtain ⟨s2, h2, hb2, hc2, hr2⟩ := hB1.1 hab
    exact ⟨s2, h2, by rw [hb2, writeAt_writeAt p off a b hab], hc2, s1, hq1, hr2⟩
  · rw [hshort ha]
    exact ⟨fun h => absurd (Nat.le_trans (by rw [List.length_append]; omega) h) ha, fun _ => rfl⟩

theorem Writes.forEach {α : Type} (bind : σ → α → σ) (body : σ → Go.Out σ ρ) (enc : α → Bytes) {Q : σ → α → σ → Prop}
    (hbody : ∀ s x, (buf s).length < 2 ^ 63 → Writes buf cur (buf s) (cur s).toNat (enc x) (Q s x) (body (bind s x))) :
    ∀ (vs : List α) (s : σ), (buf s).length < 2 ^ 63 → (cur s).toNat ≤ (buf s).length →
      Writes buf cur (buf s) (cur s).toNat (vs.map enc).flatten (fun _ => True) (Go.forEachGo bind body vs s)
  | [], s, _, ho => ⟨fun _ => ⟨s, rfl, by simp [writeAt], rfl, trivial⟩, fun h => absurd (by simpa using ho) h⟩
  | x :: r, s, hp, ho => by
    have hcons : Go.forEachGo bind body (x :: r) s = Go.seq (fun s => body (bind s x)) (Go.forEachGo bind body r) s := by
      simp only [Go.forEachGo, Go.seq]; cases body (bind s x) <;> rfl
    rw [hcons, List.map_cons, List.flatten_cons]
    exact ((hbody s x hp).seq fun s' hl hc _ => Writes.forEach bind body enc hbody r s' (hl ▸ hp) hc).mono fun _ _ => trivial

end

section
variable {σ ρ : Type} (buf : σ → Bytes) (cur : σ → BitVec 64) (set : σ → Bytes → BitVec 64 → σ)
  (hbuf : ∀ s b c, buf (set s b c) = b) (hcur : ∀ s b c, cur (set s b c) = c)
include hbuf hcur

theorem advance_writes {τ : Type} {W : σ → Bytes → Go.Out τ (BitVec 64)} {dst : τ → Bytes} (s : σ) (bs : Bytes)
    (hp : (buf s).length < 2 ^ 63) (hW : Emits (W s ((buf s).drop (cur s).toNat)) dst ((buf s).drop (cur s).toNat) bs) :
    Writes buf cur (buf s) (cur s).toNat bs (fun s' => ∃ b c, s' = set s b c) (advance (ρ := ρ) buf cur set W dst s) := by
  have hl : ((buf s).drop (cur s).toNat).length = (buf s).length - (cur s).toNat := List.length_drop
  unfold advance
  by_cases ho : (cur s).toNat ≤ (buf s).length
  · rw [if_pos ho]
    refine ⟨fun h => ?_, fun h => ?_⟩
    · obtain ⟨c, hc, hd⟩ := hW.1 (by rw [hl]; omega)
      rw [hc]
      exact ⟨_, rfl, by rw [hbuf, hd, take_append_eq_writeAt], by rw [hcur, adv_toNat _ _ (by omega)], _, _, rfl⟩
    · rw [hW.2 (by rw [hl]; omega)]
  · rw [if_neg ho]
    exact ⟨fun h => absurd (Nat.le_trans (Nat.le_add_right _ _) h) ho, fun _ => rfl⟩

theorem storeBool_writes {v : σ → Bool} (s : σ) {x : Bool} (hx : v s = x) (hp : (buf s).length < 2 ^ 63) :
    Writes buf cur (buf s) (cur s).toNat [boolByte x] (fun _ => True) (storeBool (ρ := ρ) buf cur set v s) := by
  subst hx
  by_cases h1 : (cur s).toNat < (buf s).length
  · have hadv : (cur s + 1#64).toNat = (cur s).toNat + 1 := adv_toNat (cur s) 1 (by omega)
    refine ⟨fun _ => ?_, fun h => absurd h1 h⟩
    cases hv : v s
    all_goals
      simp only [storeBool, Go.seq, hv, h1, if_true, Bool.false_eq_true, if_false]
      refine ⟨_, rfl, ?_, ?_, trivial⟩
      · rw [hbuf, hbuf, ← wr_boolByte _ _ _ h1]
        rfl
      · rw [hcur, hcur, hadv]
        rfl
  · refine ⟨fun h => absurd h h1, fun _ => ?_⟩
    cases hv : v s
    all_goals simp only [storeBool, Go.seq, hv, h1, if_false, Bool.false_eq_true, if_true]

end

/-- the translated call `M` (its state has buffer `buf` and cursor `cur`) refines an outcome of the encoder model: it returns
    with the model's buffer and cursor, or panics when the model does; no translated method returns an error -/
def Refines {σ : Type} (M : Go.Out σ Unit) (buf : σ → Bytes) (cur : σ → BitVec 64) : EncOut → Prop
  | .panic => M = .panic
  | .ok e' => ∃ s, M = .ret () s ∧ buf s = e'.buf ∧ (cur s).toNat = e'.off
  | .err _ => False

section
variable {σ : Type} {buf : σ → Bytes} {cur : σ → BitVec 64}

theorem Writes.refines {A : σ → Go.Out σ Unit} {s : σ} {p : Bytes} {off : Nat} {bs : Bytes} {Q : σ → Prop}
    (hA : Writes buf cur p off bs Q (A s)) :
    Refines (Go.seq A (fun s => .ret () s) s) buf cur (EncOut.ofRes (({ buf := p, off := off } : Enc).store bs)) := by
  obtain ⟨hfit, hshort⟩ := hA.seq_cases (rest := fun s => .ret () s) rfl
  by_cases h : off + bs.length ≤ p.length
  · obtain ⟨s', h1, h2, h3, _⟩ := hfit h
    rw [h1, store_ok _ _ _ h]
    exact ⟨s', rfl, h2, h3⟩
  · rw [hshort h, store_panic _ _ _ h]
    rfl

/-- **Key, then value, written at the cursor.**  A method `M` whose body is `e.offset += K(e.p[e.offset:], …)`,
    `e.offset += V(e.p[e.offset:], …)`, `return`, where `K` writes `kb` and `V` writes `vb` (contract `Emits`; `V` must not
    depend on buffer and cursor), refines the model step of any `op` that stores `kb ++ vb`: it returns with the model's
    buffer and cursor, and panics exactly when `kb ++ vb` does not fit. -/
theorem keyValue_refines {τ₁ τ₂ : Type} (M : Go.Out σ Unit) (s : σ) (buf : σ → Bytes) (cur : σ → BitVec 64)
    (set : σ → Bytes → BitVec 64 → σ) (hbuf : ∀ s b c, buf (set s b c) = b) (hcur : ∀ s b c, cur (set s b c) = c)
    (K : σ → Bytes → Go.Out τ₁ (BitVec 64)) (dk : τ₁ → Bytes) (V : σ → Bytes → Go.Out τ₂ (BitVec 64)) (dv : τ₂ → Bytes)
    (op : EncOp) (kb vb : Bytes) (hstep : ∀ e : Enc, e.step op = EncOut.ofRes (e.store (kb ++ vb)))
    (hp : (buf s).length < 2 ^ 63) (hK : ∀ d, Emits (K s d) dk d kb) (hV : ∀ b c d, Emits (V (set s b c) d) dv d vb)
    (hM : M = Go.seq (Go.seq (advance buf cur set K dk) (advance buf cur set V dv)) (fun s => .ret () s) s) :
    Refines M buf cur (({ buf := buf s, off := (cur s).toNat } : Enc).step op) := by
  rw [hstep, hM]
  exact ((advance_writes buf cur set hbuf hcur s kb hp (hK _)).seq fun s' hl _ ⟨b, c, hs⟩ =>
    advance_writes buf cur set hbuf hcur s' vb (hl ▸ hp) (hs ▸ hV b c _)).refines

end

theorem EncodeVarint_emits (fuel : Nat) (hf : 10 ≤ fuel) (d : Bytes) (v : BitVec 64) :
    Emits (EncodeVarint fuel d v) (·.dest) d (encVarint v.toNat) :=
  ⟨EncodeVarint_ok fuel d v hf, EncodeVarint_short fuel d v hf⟩

theorem EncodeTag_emits (fuel : Nat) (hf : 10 ≤ fuel) (d : Bytes) (tag wt : BitVec 64) :
    Emits (EncodeTag fuel d tag wt) (·.dest) d (encTag tag.toNat wt.toNat) :=
  ⟨EncodeTag_ok fuel d tag wt hf, EncodeTag_short fuel d tag wt hf⟩

theorem EncodeZigZag64_emits (fuel : Nat) (hf : 10 ≤ fuel) (d : Bytes) (v : BitVec 64) :
    Emits (EncodeZigZag64 fuel d v) (·.dest) d (encZigZag64 v.toInt) :=
  ⟨EncodeZigZag64_ok fuel d v hf, EncodeZigZag64_short fuel d v hf⟩

theorem EncodeZigZag32_emits (fuel : Nat) (hf : 10 ≤ fuel) (d : Bytes) (v : BitVec 32) :
    Emits (EncodeZigZag32 fuel d v) (·.dest) d (encZigZag32 v.toInt) :=
  ⟨EncodeZigZag32_ok fuel d v hf, EncodeZigZag32_short fuel d v hf⟩

theorem leB_eq : ∀ (k v : Nat), Go.leB k v = leBytes k v
  | 0, _ => rfl
  | k + 1, v => by simp [Go.leB, leBytes, leB_eq k]

/-- `binary.LittleEndian.PutUint32/64` as the translator renders it (`Go.putLE`, a trusted rendering of encoding/binary)
    behind its bounds check: a call that returns `k` after `Go.putLE dest k v`, and panics on a shorter `dest`, writes the
    `k` little-endian bytes of `v` -/
theorem putLE_emits {τ : Type} {W : Go.Out τ (BitVec 64)} {dst : τ → Bytes} {dest : Bytes} {k v : Nat} {c : τ}
    (hW : W = if k ≤ dest.length then .ret (BitVec.ofNat 64 k) c else .panic) (hc : dst c = Go.putLE dest k v) :
    Emits W dst dest (leBytes k v) := by
  rw [hW, Emits, leBytes_length]
  exact ⟨fun h => ⟨c, if_pos h, by rw [hc, Go.putLE, leB_eq]⟩, fun h => if_neg (Nat.not_le.mpr h)⟩

theorem EncodeFixed32_emits (fuel : Nat) (dest : Bytes) (v : BitVec 32) :
    Emits (EncodeFixed32 fuel dest v) (·.dest) dest (encFixed32 v.toNat) := by
  have hW : EncodeFixed32 fuel dest v =
      if 4 ≤ dest.length then .ret (BitVec.ofNat 64 4) { dest := Go.putLE dest 4 v.toNat, v := v } else .panic := by
    unfold EncodeFixed32 EncodeFixed32.body Go.seq
    by_cases h : 4 ≤ dest.length
    · simp only [h, if_true]
    · simp only [h, if_false]
  exact putLE_emits hW rfl

theorem EncodeFixed64_emits (fuel : Nat) (dest : Bytes) (v : BitVec 64) :
    Emits (EncodeFixed64 fuel dest v) (·.dest) dest (encFixed64 v.toNat) := by
  have hW : EncodeFixed64 fuel dest v =
      if 8 ≤ dest.length then .ret (BitVec.ofNat 64 8) { dest := Go.putLE dest 8 v.toNat, v := v } else .panic := by
    unfold EncodeFixed64 EncodeFixed64.body Go.seq
    by_cases h : 8 ≤ dest.length
    · simp only [h, if_true]
    · simp only [h, if_false]
  exact putLE_emits hW rfl

theorem EncodeFixed32_ok (fuel : Nat) (dest : Bytes) (v : BitVec 32) (hd : (encFixed32 v.toNat).length ≤ dest.length) :
    ∃ s', EncodeFixed32 fuel dest v = .ret (BitVec.ofNat 64 (encFixed32 v.toNat).length) s' ∧
      s'.dest = encFixed32 v.toNat ++ dest.drop (encFixed32 v.toNat).length :=
  (EncodeFixed32_emits fuel dest v).1 hd

theorem EncodeFixed32_short (fuel : Nat) (dest : Bytes) (v : BitVec 32) (hd : dest.length < (encFixed32 v.toNat).length) :
    EncodeFixed32 fuel dest v = .panic :=
  (EncodeFixed32_emits fuel dest v).2 hd

theorem EncodeFixed64_ok (fuel : Nat) (dest : Bytes) (v : BitVec 64) (hd : (encFixed64 v.toNat).length ≤ dest.length) :
    ∃ s', EncodeFixed64 fuel dest v = .ret (BitVec.ofNat 64 (encFixed64 v.toNat).length) s' ∧
      s'.dest = encFixed64 v.toNat ++ dest.drop (encFixed64 v.toNat).length :=
  (EncodeFixed64_emits fuel dest v).1 hd

theorem EncodeFixed64_short (fuel : Nat) (dest : Bytes) (v : BitVec 64) (hd : dest.length < (encFixed64 v.toNat).length) :
    EncodeFixed64 fuel dest v = .panic :=
  (EncodeFixed64_emits fuel dest v).2 hd

end Csproto.Bridge.EncoderFuncs
