import Csproto.Generated.Facts
import Csproto.Proofs.Wire
/-
  Bridge: the facts regenerated from /repo's Go source (`Csproto.Generated`) equal the
  hand-written model's definitions.  A changed constant or a changed source expression breaks a
  lemma here (a proof obligation), not merely a test.
-/
namespace Csproto.Bridge
open Csproto

/-! ### F1 constants -/
theorem maxTagValue_ok : Generated.MaxTagValue = (maxTagValue : Int) := by decide
theorem maxTagValue_doc : Generated.MaxTagValue = 2 ^ 29 - 1 := by decide
theorem maxFieldLen_ok : Generated.maxFieldLen = (maxFieldLen : Int) := by decide
theorem wireTypes_ok : Generated.WireTypeVarint = (wtVarint : Int) ∧ Generated.WireTypeFixed64 = (wtFixed64 : Int) ∧
    Generated.WireTypeLengthDelimited = (wtLen : Int) ∧ Generated.WireTypeFixed32 = (wtFixed32 : Int) := by decide
theorem decoderModes_ok : Generated.DecoderModeSafe = 0 ∧ Generated.DecoderModeFast = 1 := by decide

/-! ### F2 source expressions -/

/-- Go's `v >> (w-1)` on a signed `w`-bit integer: all ones for a negative `v`, zero otherwise -/
theorem sshiftRight_msb {n : Nat} (v : BitVec (n + 1)) : v.sshiftRight n = if v.msb then BitVec.allOnes (n + 1) else 0#(n + 1) := by
  apply BitVec.eq_of_toNat_eq
  have hv := v.isLt
  rw [Nat.pow_succ] at hv
  cases h : v.msb
  · have h2 := BitVec.msb_eq_false_iff_two_mul_lt.mp h
    rw [Nat.pow_succ] at h2
    rw [BitVec.toNat_sshiftRight_of_msb_false h, Nat.shiftRight_eq_div_pow, Nat.div_eq_of_lt (by omega)]
    rfl
  · have h2 := BitVec.msb_eq_true_iff_two_mul_ge.mp h
    rw [Nat.pow_succ] at h2
    rw [BitVec.toNat_sshiftRight_of_msb_true h, Nat.shiftRight_eq_div_pow, Nat.pow_succ, Nat.div_eq_of_lt (by omega)]
    simp only [if_true, BitVec.toNat_allOnes, Nat.pow_succ, Nat.sub_zero]

/-- the zig-zag of a signed `w`-bit integer as Go computes it, `(v << 1) ^ (v >> (w-1))`, is the arithmetic zig-zag -/
theorem zigzag_bv {n : Nat} (v : BitVec (n + 1)) : ((v <<< 1) ^^^ v.sshiftRight n).toNat = zigzag v.toInt := by
  have hv := v.isLt
  rw [sshiftRight_msb, BitVec.toInt_eq_msb_cond]
  cases h : v.msb
  · have h2 := BitVec.msb_eq_false_iff_two_mul_lt.mp h
    rw [if_neg Bool.false_ne_true, if_neg Bool.false_ne_true, BitVec.xor_zero, BitVec.toNat_shiftLeft, Nat.shiftLeft_eq,
      Nat.pow_one, Nat.mul_comm, Nat.mod_eq_of_lt h2, zigzag_ofNat]
  · have h2 := BitVec.msb_eq_true_iff_two_mul_ge.mp h
    rw [if_pos rfl, if_pos rfl, BitVec.xor_allOnes, BitVec.toNat_not, BitVec.toNat_shiftLeft, Nat.shiftLeft_eq,
      Nat.pow_one, Nat.mul_comm, Nat.mod_eq_sub_mod h2, Nat.mod_eq_of_lt (by omega), zigzag]
    generalize 2 ^ (n + 1) = P at *
    rw [if_neg (by omega)]
    omega

/-- `EncodeZigZag64`: `uint64(v<<1) ^ uint64(v>>63)` is the arithmetic zig-zag of `v` -/
theorem encodeZigZag64_src (v : BitVec 64) : (Generated.EncodeZigZag64_zz v).toNat = zigzag v.toInt :=
  zigzag_bv (n := 63) v

/-- `EncodeZigZag32`: `uint64((uint32(v) << 1) ^ uint32(v >> 31))` -/
theorem encodeZigZag32_src (v : BitVec 32) : (Generated.EncodeZigZag32_zz v).toNat = zigzag v.toInt :=
  (BitVec.toNat_setWidth_of_le (by decide)).trans (zigzag_bv (n := 31) v)

/-- the inverse as Go computes it on an unsigned `w`-bit integer: `(d >> 1) ^ m`, where the mask `m` (all ones for an odd
    `d`) is `((d & 1) << (w-1)) >> (w-1)` in signed arithmetic; the result read as a signed integer -/
theorem unzigzag_bv {n : Nat} (d : BitVec (n + 1)) :
    ((d >>> 1) ^^^ ((d &&& 1#(n + 1)) <<< n).sshiftRight n).toInt = unzigzag d.toNat := by
  have hd := d.isLt
  have h1 : (1#(n + 1)).toNat = 1 := Nat.mod_eq_of_lt (Nat.one_lt_two_pow (Nat.succ_ne_zero n))
  have hand : (d &&& 1#(n + 1)).toNat = d.toNat % 2 := by rw [BitVec.toNat_and, h1, Nat.and_one_is_mod]
  have hhalf : (d >>> 1).msb = false := by rw [BitVec.msb_ushiftRight]; rfl
  have hshr : (d >>> 1).toNat = d.toNat / 2 := by rw [BitVec.toNat_ushiftRight, Nat.shiftRight_eq_div_pow, Nat.pow_one]
  unfold unzigzag
  rcases Nat.mod_two_eq_zero_or_one d.toNat with h | h
  · rw [BitVec.eq_of_toNat_eq (hand.trans h) (y := 0#(n + 1)), BitVec.zero_shiftLeft, BitVec.zero_sshiftRight, BitVec.xor_zero,
      BitVec.toInt_eq_msb_cond, hhalf, hshr, if_pos h]
    rfl
  · have hone : (1#(n + 1) <<< n).msb = true := by
      rw [BitVec.msb_eq_true_iff_two_mul_ge, BitVec.toNat_shiftLeft, h1, Nat.shiftLeft_eq, Nat.one_mul,
        Nat.mod_eq_of_lt (Nat.pow_lt_pow_right (by decide) (Nat.lt_succ_self n)), Nat.pow_succ]
      omega
    rw [BitVec.eq_of_toNat_eq (hand.trans (h.trans h1.symm)) (y := 1#(n + 1)), sshiftRight_msb, hone, if_pos rfl, BitVec.xor_allOnes,
      BitVec.toInt_eq_msb_cond, BitVec.msb_not, hhalf, BitVec.toNat_not, hshr]
    rw [if_pos (by rw [decide_eq_true (Nat.succ_pos n)]; rfl), if_neg (by omega)]
    generalize 2 ^ (n + 1) = P at *
    omega

/-- `DecodeZigZag64`: `(dv >> 1) ^ uint64((int64(dv&1)<<63)>>63)` read as `int64` -/
theorem decodeZigZag64_src (dv : BitVec 64) : (Generated.DecodeZigZag64_dv dv).toInt = unzigzag dv.toNat :=
  unzigzag_bv (n := 63) dv

/-- `DecodeZigZag32`: `uint64((uint32(dv) >> 1) ^ uint32((int32(dv&1)<<31)>>31))`, returned as `int32(dv)` -/
theorem decodeZigZag32_src (dv : BitVec 64) :
    ((Generated.DecodeZigZag32_dv dv).setWidth 32).toInt = unzigzag (dv.toNat % two32) := by
  unfold Generated.DecodeZigZag32_dv
  rw [BitVec.setWidth_setWidth_of_le _ (by decide), BitVec.setWidth_eq, BitVec.setWidth_and,
    show BitVec.setWidth 32 1#64 = 1#32 from rfl]
  exact (unzigzag_bv (n := 31) (dv.setWidth 32)).trans (congrArg unzigzag (BitVec.toNat_setWidth _ _))

theorem bitLen_le_64 (x : Nat) (h : x < 2 ^ 64) : bitLen x ≤ 64 := by
  by_cases hx : x = 0
  · simp [bitLen, hx]
  · exact (bitLen_le_iff x 64 hx).mpr h

theorem goBitsLen64_toNat (x : BitVec 64) : (Generated.goBitsLen64 x).toNat = bitLen x.toNat := by
  unfold Generated.goBitsLen64
  have := bitLen_le_64 x.toNat x.isLt
  show (BitVec.ofNat 64 (bitLen x.toNat)).toNat = _
  rw [BitVec.toNat_ofNat]; omega

/-- `SizeOfVarint`: `(bits.Len64(v|1) + 6) / 7` in Go's 64-bit `int` arithmetic never wraps and is
    the model's closed form -/
theorem sizeOfVarint_src (v : BitVec 64) : (Generated.SizeOfVarint v).toNat = sizeOfVarint v.toNat := by
  unfold Generated.SizeOfVarint sizeOfVarint
  have hl := goBitsLen64_toNat (v ||| 1#64)
  have hor : (v ||| 1#64).toNat = v.toNat ||| 1 := by simp
  rw [hor] at hl
  have hb := bitLen_le_64 (v.toNat ||| 1) (by rw [← hor]; exact (v ||| 1#64).isLt)
  have hsum : (Generated.goBitsLen64 (v ||| 1#64) + 6#64).toNat = bitLen (v.toNat ||| 1) + 6 := by
    rw [BitVec.toNat_add, hl]; simp; omega
  have hm1 : (Generated.goBitsLen64 (v ||| 1#64) + 6#64).msb = false := by
    rw [BitVec.msb_eq_false_iff_two_mul_lt, hsum]; omega
  have hm2 : (7#64).msb = false := by decide
  rw [BitVec.sdiv_eq, hm1, hm2]
  show ((Generated.goBitsLen64 (v ||| 1#64) + 6#64) / 7#64).toNat = _
  rw [BitVec.toNat_udiv, hsum]
  rfl

/-- `SizeOfTagKey(k) = SizeOfVarint(uint64(uint(k) << 3))` -/
theorem sizeOfTagKey_src (k : BitVec 64) : (Generated.SizeOfTagKey k).toNat = sizeOfTagKey k.toNat := by
  unfold Generated.SizeOfTagKey sizeOfTagKey
  rw [sizeOfVarint_src]
  simp [BitVec.toNat_shiftLeft, two64]

/-- `SizeOfZigZag(v) = SizeOfVarint((v << 1) ^ uint64(int64(v) >> 63))` -/
theorem sizeOfZigZag_src (v : BitVec 64) : (Generated.SizeOfZigZag v).toNat = sizeOfZigZag v.toInt := by
  unfold Generated.SizeOfZigZag sizeOfZigZag
  rw [sizeOfVarint_src]
  exact congrArg sizeOfVarint (zigzag_bv (n := 63) v)

/-- `EncodeTag`: `(uint64(tag) << 3) | uint64(wireType)` -/
theorem encodeTag_src (tag wt : BitVec 64) : (Generated.EncodeTag_k tag wt).toNat = keyOf tag.toNat wt.toNat := by
  unfold Generated.EncodeTag_k keyOf
  simp [BitVec.toNat_shiftLeft, two64]

end Csproto.Bridge
