import Csproto.Bridge.DecoderFuncs
/-
  The translated `(*Decoder).Skip` (decoder.go; one definition per top-level statement, `Decoder_Skip.s1 … s11`) refines
  `Dec.step (.skip tag wt)`: acceptance, the returned slice (the field from where its key starts — `keyStart` when Skip directly
  follows the DecodeTag that read the key, `offset - SizeOfTagKey(tag)` clamped at 0 otherwise — up to the end of its payload)
  and the new cursor.  The body is run in four pieces (statements 2–5, 6, 8, 9–11) against the model's `bof`, `Dec.skipCheck`,
  `Dec.skipLen` and bounds test.
-/
namespace Csproto.Bridge.SkipFuncs
open Csproto Csproto.Generated Csproto.Generated.WireFuncs Csproto.Bridge Csproto.Bridge.WireFuncs Csproto.Bridge.DecoderFuncs

abbrev SS := Decoder_Skip.St

/-- a state of `Skip` with every field explicit -/
def G (p : Bytes) (off mode ks ke tag wt sz bof v n : BitVec 64) (err : Go.Err) (tt tw skipped l : BitVec 64) : SS :=
  { d_p := p, d_offset := off, d_mode := mode, d_keyStart := ks, d_keyEnd := ke, tag := tag, wt := wt, sz := sz, bof := bof,
    v := v, n := n, err := err, thisTag := tt, thisWireType := tw, skipped := skipped, l := l }

theorem sizeOfTagKey_bounds (k : Nat) : 1 ≤ sizeOfTagKey k ∧ sizeOfTagKey k ≤ 10 := by
  unfold sizeOfTagKey
  have hlt : (k <<< 3) % two64 < two64 := Nat.mod_lt _ (by unfold two64; omega)
  rw [sizeOfVarint_eq_length]
  exact ⟨encVarint_length_pos _, encVarint_length_le_10 hlt⟩

/-- the start of the field in the model: the `bof` of `Dec.skip` -/
def modelBof (off ks ke sz : Nat) : Nat := if ke = off ∧ ke > ks then ks else off - sz

theorem sub_small (off sz : BitVec 64) (ho : off.toNat < 2 ^ 62) (hs : sz.toNat ≤ 10) :
    BitVec.slt (off - sz) 0#64 = decide (off.toNat < sz.toNat) ∧
    (¬ off.toNat < sz.toNat → (off - sz).toNat = off.toNat - sz.toNat) := by
  refine ⟨?_, fun h => BitVec.toNat_sub_of_le (BitVec.le_def.mpr (Nat.le_of_not_lt h))⟩
  rw [BitVec.slt, toInt_sub_small off sz ho (by omega), show (0#64).toInt = 0 from rfl]
  exact decide_eq_decide.mpr (by omega)

theorem key_cond (off ks ke : BitVec 64) (hks : ks.toNat < 2 ^ 63) (hke : ke.toNat < 2 ^ 63) :
    (ke = off ∧ BitVec.slt ks ke = true) ↔ (ke.toNat = off.toNat ∧ ke.toNat > ks.toNat) := by
  rw [slt_eq_of_lt hks hke, decide_eq_true_eq, ← BitVec.toNat_inj]

/-- statements 2–5: `sz`, and `bof` = the model's start of the field -/
theorem prefix_eval (fuel : Nat) (p : Bytes) (off mode ks ke tag wt : BitVec 64)
    (hp : p.length < 2 ^ 62) (hoff : off.toNat ≤ p.length) (hks : ks.toNat ≤ p.length) (hke : ke.toNat ≤ p.length)
    (K : SS → Go.Out SS Decoder_Skip.R) :
    ∃ bof : BitVec 64, bof.toNat = modelBof off.toNat ks.toNat ke.toNat (sizeOfTagKey tag.toNat) ∧ bof.toNat ≤ off.toNat ∧
      Go.seq (Decoder_Skip.s2 fuel) (Go.seq (Decoder_Skip.s3 fuel) (Go.seq (Decoder_Skip.s4 fuel) (Go.seq (Decoder_Skip.s5 fuel) K)))
        (G p off mode ks ke tag wt 0#64 0#64 0#64 0#64 .nil 0#64 0#64 0#64 0#64) =
      K (G p off mode ks ke tag wt (SizeOfTagKey tag) bof 0#64 0#64 .nil 0#64 0#64 0#64 0#64) := by
  have hsz := sizeOfTagKey_src tag
  have hb := sizeOfTagKey_bounds tag.toNat
  have hp63 : p.length < 2 ^ 63 := Nat.lt_trans hp (by decide)
  obtain ⟨hslt, hsub⟩ := sub_small off (SizeOfTagKey tag) (Nat.lt_of_le_of_lt hoff hp) (hsz ▸ hb.2)
  have hkc := key_cond off ks ke (Nat.lt_of_le_of_lt hks hp63) (Nat.lt_of_le_of_lt hke hp63)
  generalize hX : Go.seq (Decoder_Skip.s2 fuel) _ _ = X
  simp only [Go.seq, Decoder_Skip.s2, Decoder_Skip.s3, Decoder_Skip.s4, Decoder_Skip.s5, G, Go.skip, hslt, Bool.and_eq_true,
    beq_iff_eq] at hX
  unfold modelBof
  by_cases hk : ke.toNat = off.toNat ∧ ke.toNat > ks.toNat
  · -- the key just read: statement 5 overrides whatever statement 4 left
    rw [if_pos hk]
    refine ⟨ks, rfl, hk.1 ▸ Nat.le_of_lt hk.2, ?_⟩
    by_cases hc : off.toNat < (SizeOfTagKey tag).toNat
    · simp only [decide_eq_true hc, if_true, if_pos (hkc.mpr hk)] at hX; exact hX.symm
    · simp only [decide_eq_false hc, Bool.false_eq_true, if_false, if_pos (hkc.mpr hk)] at hX; exact hX.symm
  · rw [if_neg hk]
    have hkn : ¬ (ke = off ∧ ks.slt ke = true) := fun h => hk (hkc.mp h)
    by_cases hc : off.toNat < (SizeOfTagKey tag).toNat
    · simp only [decide_eq_true hc, if_true, if_neg hkn] at hX
      exact ⟨0#64, (Nat.sub_eq_zero_of_le (Nat.le_of_lt (hsz ▸ hc))).symm, Nat.zero_le _, hX.symm⟩
    · simp only [decide_eq_false hc, Bool.false_eq_true, if_false, if_neg hkn] at hX
      exact ⟨off - SizeOfTagKey tag, hsz ▸ hsub hc, hsub hc ▸ Nat.sub_le _ _, hX.symm⟩

theorem mode_fast (mode : BitVec 64) : (mode != 0#64) = !(mode == 0#64) := by simp [bne]

theorem skipCheck_fast (d : Dec) (tag wt bof sz : Nat) (h : d.fast = true) : d.skipCheck tag wt bof sz = .ok () := by
  simp only [Dec.skipCheck, h, if_true]

theorem skipCheck_err (d : Dec) (tag wt bof sz : Nat) (h : d.fast = false) (hb : bof ≤ d.p.length)
    (hm : decodeVarint (d.p.drop bof) = .err) : d.skipCheck tag wt bof sz = .err := by
  simp only [Dec.skipCheck, h, Bool.false_eq_true, if_false, sliceFrom, hb, if_true, hm]

theorem skipCheck_ok (d : Dec) (tag wt bof sz : Nat) (h : d.fast = false) (hb : bof ≤ d.p.length) {v n : Nat}
    (hm : decodeVarint (d.p.drop bof) = .ok (v, n)) :
    d.skipCheck tag wt bof sz = if n ≠ sz then .err else if v >>> 3 ≠ tag ∨ v &&& 7 ≠ wt then .err else .ok () := by
  simp only [Dec.skipCheck, h, Bool.false_eq_true, if_false, sliceFrom, hb, if_true, hm]

/-- statement 6: the safe-mode re-read of the key at `bof` -/
theorem check_eval (fuel : Nat) (hf : 11 ≤ fuel) (p : Bytes) (off mode ks ke tag wt sz bof v0 n0 : BitVec 64) (e0 : Go.Err)
    (tt0 tw0 sk0 l0 : BitVec 64) (hp : p.length < 2 ^ 62) (hb : bof.toNat ≤ p.length) :
    match (decOf p off ks ke (mode != 0#64)).skipCheck tag.toNat wt.toNat bof.toNat sz.toNat with
    | .ok () => ∃ v n e tt tw, Decoder_Skip.s6 fuel (G p off mode ks ke tag wt sz bof v0 n0 e0 tt0 tw0 sk0 l0) =
        .next (G p off mode ks ke tag wt sz bof v n e tt tw sk0 l0)
    | .err => ∃ e s', Decoder_Skip.s6 fuel (G p off mode ks ke tag wt sz bof v0 n0 e0 tt0 tw0 sk0 l0) = .ret ([], e) s' ∧
        e ≠ .nil ∧ s'.d_p = p ∧ s'.d_offset = off ∧ s'.d_mode = mode ∧ s'.d_keyStart = ks ∧ s'.d_keyEnd = ke
    | .panic => False := by
  by_cases hm : mode = 0#64
  · subst hm
    obtain ⟨v, n, e, c, hd, hcase⟩ := reads_varint fuel hf (p.drop bof.toNat) (drop_len p _ (Nat.lt_trans hp (by decide)))
    generalize hX : Decoder_Skip.s6 fuel _ = X
    simp only [Decoder_Skip.s6, G, beq_self_eq_true, if_true, ↓Go.seq_guard, Go.seq, Go.skip, hb, hd, bne_eq_decide_toNat,
      BitVec.toNat_ushiftRight, BitVec.toNat_and, ← Bool.decide_or, show (7#64).toNat = 7 from rfl] at hX
    rcases hcase with ⟨rfl, hmv, -, -⟩ | ⟨hne, hmv⟩
    · rw [skipCheck_ok _ _ _ _ _ rfl hb hmv]
      rw [if_neg (by decide)] at hX
      by_cases hn : n.toNat ≠ sz.toNat
      · rw [if_pos hn]
        rw [if_pos (decide_eq_true hn)] at hX
        exact ⟨_, _, hX.symm, nofun, rfl, rfl, rfl, rfl, rfl⟩
      · rw [if_neg hn]
        rw [if_neg (mt of_decide_eq_true hn)] at hX
        by_cases hmis : v.toNat >>> 3 ≠ tag.toNat ∨ v.toNat &&& 7 ≠ wt.toNat
        · rw [if_pos hmis]
          rw [if_pos (decide_eq_true hmis)] at hX
          exact ⟨_, _, hX.symm, nofun, rfl, rfl, rfl, rfl, rfl⟩
        · rw [if_neg hmis]
          rw [if_neg (mt of_decide_eq_true hmis)] at hX
          exact ⟨_, _, _, _, _, hX.symm⟩
    · rw [skipCheck_err _ _ _ _ _ rfl hb hmv]
      rw [if_pos (bne_iff_ne.mpr hne)] at hX
      exact ⟨_, _, hX.symm, hne, rfl, rfl, rfl, rfl, rfl⟩
  · rw [skipCheck_fast _ _ _ _ _ (bne_iff_ne.mpr hm)]
    exact ⟨v0, n0, e0, tt0, tw0, by simp only [Decoder_Skip.s6, G, beq_eq_false_iff_ne.mpr hm, Bool.false_eq_true, if_false, Go.skip]⟩

theorem decVarintLoop_le (fuel : Nat) : ∀ (shift acc n : Nat) (s : Bytes) (v k : Nat),
    decVarintLoop fuel shift acc n s = .ok (v, k) → k ≤ n + fuel := by
  induction fuel with
  | zero => intro shift acc n s v k h; simp [decVarintLoop] at h
  | succ fuel ih =>
    intro shift acc n s v k h
    cases s with
    | nil => simp [decVarintLoop] at h
    | cons b bs =>
      simp only [decVarintLoop] at h
      by_cases hb : b.toNat < 128
      · simp [hb] at h; omega
      · simp only [hb, if_false] at h
        have := ih _ _ _ _ _ _ h
        omega

theorem decodeVarint_le10 {s : Bytes} {v n : Nat} (h : decodeVarint s = .ok (v, n)) : n ≤ 10 := by
  cases s with
  | nil => simp [decodeVarint] at h
  | cons b bs =>
    simp only [decodeVarint] at h
    by_cases hb : b.toNat < 128
    · simp [hb] at h; omega
    · simp only [hb, if_false] at h
      have := decVarintLoop_le _ _ _ _ _ _ _ h
      omega

theorem skipLen_varint (d : Dec) (h : d.off ≤ d.p.length) {r : Res (Nat × Nat)} (hm : decodeVarint (d.p.drop d.off) = r) :
    d.skipLen 0 = r.map (·.2) := by
  simp only [Dec.skipLen, wtVarint, if_true, sliceFrom, h, hm]

theorem skipLen_fixed64 (d : Dec) : d.skipLen 1 = .ok 8 := rfl

theorem skipLen_len_err (d : Dec) (h : d.off ≤ d.p.length) (hm : decodeVarint (d.p.drop d.off) = .err) : d.skipLen 2 = .err := by
  have n0 : ¬ (2 : Nat) = wtVarint := by decide
  have n1 : ¬ (2 : Nat) = wtFixed64 := by decide
  have e2 : (2 : Nat) = wtLen := rfl
  simp only [Dec.skipLen, n0, n1, if_pos e2, if_false, if_true, sliceFrom, h, hm]

theorem skipLen_len_ok (d : Dec) (h : d.off ≤ d.p.length) {l n : Nat} (hm : decodeVarint (d.p.drop d.off) = .ok (l, n)) :
    d.skipLen 2 = if n = 0 then .err else if l > maxFieldLen then .err else .ok (n + l) := by
  have n0 : ¬ (2 : Nat) = wtVarint := by decide
  have n1 : ¬ (2 : Nat) = wtFixed64 := by decide
  have e2 : (2 : Nat) = wtLen := rfl
  simp only [Dec.skipLen, n0, n1, if_pos e2, if_false, if_true, sliceFrom, h, hm]

theorem skipLen_fixed32 (d : Dec) : d.skipLen 5 = .ok 4 := rfl

theorem skipLen_other (d : Dec) (wt : Nat) (h0 : wt ≠ 0) (h1 : wt ≠ 1) (h2 : wt ≠ 2) (h5 : wt ≠ 5) : d.skipLen wt = .err := by
  simp only [Dec.skipLen, wtVarint, wtFixed64, wtLen, wtFixed32, h0, h1, h2, h5, if_false]

/-- statement 8: the number of payload bytes per wire type -/
theorem len_eval (fuel : Nat) (hf : 11 ≤ fuel) (p : Bytes) (off mode ks ke tag wt sz bof v0 n0 : BitVec 64) (e0 : Go.Err)
    (tt0 tw0 sk0 l0 : BitVec 64) (hp : p.length < 2 ^ 62) (hoff : off.toNat ≤ p.length) :
    match (decOf p off ks ke (mode != 0#64)).skipLen wt.toNat with
    | .ok k => ∃ n e l sk, Decoder_Skip.s8 fuel (G p off mode ks ke tag wt sz bof v0 n0 e0 tt0 tw0 sk0 l0) =
        .next (G p off mode ks ke tag wt sz bof v0 n e tt0 tw0 sk l) ∧ sk.toNat = k ∧ k ≤ 2 ^ 31 + 10
    | .err => ∃ e s', Decoder_Skip.s8 fuel (G p off mode ks ke tag wt sz bof v0 n0 e0 tt0 tw0 sk0 l0) = .ret ([], e) s' ∧
        e ≠ .nil ∧ s'.d_p = p ∧ s'.d_offset = off ∧ s'.d_mode = mode ∧ s'.d_keyStart = ks ∧ s'.d_keyEnd = ke
    | .panic => False := by
  have hrd := reads_varint fuel hf (p.drop off.toNat) (drop_len p _ (Nat.lt_trans hp (by decide)))
  generalize hX : Decoder_Skip.s8 fuel _ = X
  simp only [Decoder_Skip.s8, G] at hX
  by_cases h0 : wt = 0#64
  · obtain ⟨v, n, e, c, hd, hcase⟩ := hrd
    rw [if_pos (beq_iff_eq.mpr h0)] at hX
    simp only [↓Go.seq_guard, Go.seq, hoff, if_true, hd] at hX
    rw [show wt.toNat = 0 from h0 ▸ rfl]
    rcases hcase with ⟨rfl, hmv, -, -⟩ | ⟨hne, hmv⟩
    · rw [skipLen_varint _ hoff hmv]
      rw [if_neg (by decide)] at hX
      exact ⟨n, .nil, l0, n, hX.symm, rfl, Nat.le_trans (decodeVarint_le10 hmv) (by decide)⟩
    · rw [skipLen_varint _ hoff hmv]
      rw [if_pos (bne_iff_ne.mpr hne)] at hX
      exact ⟨_, _, hX.symm, hne, rfl, rfl, rfl, rfl, rfl⟩
  · rw [if_neg (mt beq_iff_eq.mp h0)] at hX
    by_cases h1 : wt = 1#64
    · rw [if_pos (beq_iff_eq.mpr h1)] at hX
      rw [show wt.toNat = 1 from h1 ▸ rfl, skipLen_fixed64]
      exact ⟨n0, e0, l0, 8#64, hX.symm, rfl, by decide⟩
    · rw [if_neg (mt beq_iff_eq.mp h1)] at hX
      by_cases h2 : wt = 2#64
      · obtain ⟨l, n, e, c, hd, hcase⟩ := hrd
        rw [if_pos (beq_iff_eq.mpr h2)] at hX
        simp only [↓Go.seq_ite, Go.seq, Go.skip, hoff, if_true, hd] at hX
        rw [show wt.toNat = 2 from h2 ▸ rfl]
        -- the three tests on the length prefix, the equation for `X` carried along
        refine len_ite (P := fun Y => Y = X → _) hcase (fun hne hmv hX => ?_) (fun hmv hpos hbig hX => ?_)
          (fun hmv hpos _ hbig hX => ?_) hX
        · rw [skipLen_len_err _ hoff hmv]
          exact ⟨_, _, hX.symm, hne, rfl, rfl, rfl, rfl, rfl⟩
        · rw [skipLen_len_ok _ hoff hmv, if_neg (Nat.ne_of_gt hpos), if_pos hbig]
          exact ⟨_, _, hX.symm, nofun, rfl, rfl, rfl, rfl, rfl⟩
        · have h10 := decodeVarint_le10 hmv
          have hl31 : l.toNat ≤ 2147483647 := Nat.le_of_not_lt hbig
          rw [skipLen_len_ok _ hoff hmv, if_neg (Nat.ne_of_gt hpos), if_neg hbig]
          have hnl := Nat.add_le_add h10 hl31
          exact ⟨_, _, _, _, hX.symm, BitVec.toNat_add_of_lt (Nat.lt_of_le_of_lt hnl (by decide)), Nat.le_trans hnl (by decide)⟩
      · rw [if_neg (mt beq_iff_eq.mp h2)] at hX
        by_cases h5 : wt = 5#64
        · simp only [beq_iff_eq.mpr h5, if_true] at hX
          rw [show wt.toNat = 5 from h5 ▸ rfl, skipLen_fixed32]
          exact ⟨n0, e0, l0, 4#64, hX.symm, rfl, by decide⟩
        · simp only [beq_eq_false_iff_ne.mpr h5, Bool.false_eq_true, if_false] at hX
          rw [skipLen_other _ _ (fun h => h0 (BitVec.eq_of_toNat_eq h)) (fun h => h1 (BitVec.eq_of_toNat_eq h))
            (fun h => h2 (BitVec.eq_of_toNat_eq h)) (fun h => h5 (BitVec.eq_of_toNat_eq h))]
          exact ⟨_, _, hX.symm, nofun, rfl, rfl, rfl, rfl, rfl⟩

/-- statements 9–11: the bounds test on `offset + skipped`, the cursor update, the returned slice from `bof` -/
theorem tail_eval (fuel : Nat) (p : Bytes) (off mode ks ke tag wt sz bof v n : BitVec 64) (e : Go.Err) (tt tw sk l : BitVec 64)
    (hp : p.length < 2 ^ 63) (hb : bof.toNat ≤ off.toNat) (hs : off.toNat + sk.toNat < 2 ^ 63) :
    Go.seq (Decoder_Skip.s9 fuel) (Go.seq (Decoder_Skip.s10 fuel) (Go.seq (Decoder_Skip.s11 fuel) Go.missingReturn))
        (G p off mode ks ke tag wt sz bof v n e tt tw sk l) =
      if p.length < off.toNat + sk.toNat then .ret ([], .unexpectedEOF) (G p off mode ks ke tag wt sz bof v n e tt tw sk l)
      else .ret ((p.drop bof.toNat).take (off.toNat + sk.toNat - bof.toNat), .nil)
        (G p (off + sk) mode ks ke tag wt sz bof v n e tt tw sk l) := by
  have hsum : (off + sk).toNat = off.toNat + sk.toNat := BitVec.toNat_add_of_lt (Nat.lt_trans hs (by decide))
  simp only [Go.seq, Decoder_Skip.s9, Decoder_Skip.s10, Decoder_Skip.s11, G, Go.skip, slt_len p (off + sk) hp (hsum ▸ hs), hsum]
  by_cases hover : p.length < off.toNat + sk.toNat
  · simp only [decide_eq_true hover, if_true, if_pos hover]
  · have hg : bof.toNat ≤ off.toNat + sk.toNat ∧ off.toNat + sk.toNat ≤ p.length :=
      ⟨Nat.le_trans hb (Nat.le_add_right _ _), Nat.le_of_not_lt hover⟩
    simp only [decide_eq_false hover, Bool.false_eq_true, if_false, if_neg hover, hsum, hg, and_self, if_true]

theorem step_skip_eof (d : Dec) (tag wt : Nat) (h : d.len ≤ d.off) : d.step (.skip tag wt) = (d, .err, 0) := by
  show withAlloc (d.skip tag wt) 0 = _
  simp only [withAlloc, Dec.skip, ge_iff_le, h, if_true]

theorem step_skip_check_err (d : Dec) (tag wt : Nat) (h : ¬ d.len ≤ d.off)
    (hc : d.skipCheck tag wt (modelBof d.off d.ks d.ke (sizeOfTagKey tag)) (sizeOfTagKey tag) = .err) :
    d.step (.skip tag wt) = (d, .err, 0) := by
  unfold modelBof at hc
  show withAlloc (d.skip tag wt) 0 = _
  simp only [withAlloc, Dec.skip, ge_iff_le, h, if_false, hc]

theorem step_skip_len_err (d : Dec) (tag wt : Nat) (h : ¬ d.len ≤ d.off)
    (hc : d.skipCheck tag wt (modelBof d.off d.ks d.ke (sizeOfTagKey tag)) (sizeOfTagKey tag) = .ok ())
    (hl : d.skipLen wt = .err) : d.step (.skip tag wt) = (d, .err, 0) := by
  unfold modelBof at hc
  show withAlloc (d.skip tag wt) 0 = _
  simp only [withAlloc, Dec.skip, ge_iff_le, h, if_false, hc, hl]

theorem step_skip_ok (d : Dec) (tag wt : Nat) (h : ¬ d.len ≤ d.off)
    (hc : d.skipCheck tag wt (modelBof d.off d.ks d.ke (sizeOfTagKey tag)) (sizeOfTagKey tag) = .ok ()) {k : Nat}
    (hl : d.skipLen wt = .ok k) :
    d.step (.skip tag wt) = if d.off + k > d.len then (d, .err, 0) else
      ({ d with off := d.off + k }, .ok (.bytes ((d.p.drop (modelBof d.off d.ks d.ke (sizeOfTagKey tag))).take
        (d.off + k - modelBof d.off d.ks d.ke (sizeOfTagKey tag)))), 0) := by
  unfold modelBof at hc ⊢
  show withAlloc (d.skip tag wt) 0 = _
  simp only [withAlloc, Dec.skip, ge_iff_le, h, if_false, hc, hl]
  split <;> rfl

abbrev Skip_view (s : SS) : Recv := ⟨⟨s.d_p, s.d_mode, s.d_keyStart, s.d_keyEnd⟩, s.d_offset⟩

theorem Skip_sim (fuel : Nat) (hf : 11 ≤ fuel) (p : Bytes) (off mode ks ke tag wt : BitVec 64)
    (hp : p.length < 2 ^ 62) (hoff : off.toNat ≤ p.length) (hks : ks.toNat ≤ p.length) (hke : ke.toNat ≤ p.length) :
    Agrees Skip_view id .bytes
      ⟨⟨p, mode, ks, ke⟩, off⟩ (mode != 0#64) (.skip tag.toNat wt.toNat) (Decoder_Skip fuel p off mode ks ke tag wt) := by
  have hp63 : p.length < 2 ^ 63 := Nat.lt_trans hp (by decide)
  by_cases heof : p.length ≤ off.toNat
  · rw [show Decoder_Skip fuel p off mode ks ke tag wt = _ from
      atCursor_eof Skip_view _ _ _ _ hp63 hoff heof]
    exact .err (step_skip_eof (decOf p off ks ke (mode != 0#64)) _ _ heof) nofun rfl
  · obtain ⟨bof, hbof, hble, hpre⟩ := prefix_eval fuel p off mode ks ke tag wt hp hoff hks hke
      (Go.seq (Decoder_Skip.s6 fuel) (Go.seq (Decoder_Skip.s7 fuel) (Go.seq (Decoder_Skip.s8 fuel)
        (Go.seq (Decoder_Skip.s9 fuel) (Go.seq (Decoder_Skip.s10 fuel) (Go.seq (Decoder_Skip.s11 fuel) Go.missingReturn))))))
    rw [show Decoder_Skip fuel p off mode ks ke tag wt = _ from
      atCursor_more Skip_view _ _ _
        (G p off mode ks ke tag wt 0#64 0#64 0#64 0#64 .nil 0#64 0#64 0#64 0#64) hp63 hoff heof]
    simp only [Go.seq_assoc]
    rw [hpre]
    have hsz : (SizeOfTagKey tag).toNat = sizeOfTagKey tag.toNat := sizeOfTagKey_src tag
    have hck := check_eval fuel hf p off mode ks ke tag wt (SizeOfTagKey tag) bof 0#64 0#64 .nil 0#64 0#64 0#64 0#64 hp
      (Nat.le_trans hble hoff)
    rw [hbof, hsz] at hck
    generalize hc : (decOf p off ks ke (mode != 0#64)).skipCheck _ _ _ _ = chk at hck
    cases chk with
    | panic => exact hck.elim
    | err =>
      obtain ⟨e, s', h6, hne, h1, h2, h3, h4, h5⟩ := hck
      rw [Go.seq_ret h6]
      exact .err (step_skip_check_err (decOf p off ks ke (mode != 0#64)) _ _ heof hc) hne
        (by simp only [Skip_view, h1, h2, h3, h4, h5])
    | ok u =>
      obtain ⟨v, n, e, tt, tw, h6⟩ := hck
      rw [Go.seq_next h6, Go.seq_next (a := Decoder_Skip.s7 fuel)
        (s' := G p off mode ks ke tag wt (SizeOfTagKey tag) bof v n e tt tw 0#64 0#64) rfl]
      have hlen := len_eval fuel hf p off mode ks ke tag wt (SizeOfTagKey tag) bof v n e tt tw 0#64 0#64 hp hoff
      generalize hl : (decOf p off ks ke (mode != 0#64)).skipLen wt.toNat = len at hlen
      cases len with
      | panic => exact hlen.elim
      | err =>
        obtain ⟨e', s', h8, hne, h1, h2, h3, h4, h5⟩ := hlen
        rw [Go.seq_ret h8]
        exact .err (step_skip_len_err (decOf p off ks ke (mode != 0#64)) _ _ heof hc hl) hne
          (by simp only [Skip_view, h1, h2, h3, h4, h5])
      | ok k =>
        obtain ⟨n2, e2, l2, sk, h8, hsk, hkb⟩ := hlen
        rw [Go.seq_next h8]
        have hst := step_skip_ok (decOf p off ks ke (mode != 0#64)) _ _ heof hc hl
        -- `offset + skipped < 2^62 + 2^31 + 10`
        have hs : off.toNat + sk.toNat < 2 ^ 63 :=
          Nat.lt_of_lt_of_le (Nat.add_lt_add_of_lt_of_le (Nat.lt_of_le_of_lt hoff hp) (hsk ▸ hkb)) (by decide)
        rw [tail_eval fuel p off mode ks ke tag wt _ bof v n2 e2 tt tw sk l2 hp63 hble hs, hsk]
        by_cases hover : p.length < off.toNat + k
        · rw [if_pos hover]
          exact .err (hst.trans (if_pos hover)) nofun rfl
        · rw [if_neg hover]
          exact .ok (hbof ▸ hst.trans (if_neg hover)) rfl
            ((BitVec.toNat_add_of_lt (Nat.lt_trans hs (by decide))).trans (congrArg (off.toNat + ·) hsk))

/-- **`(*Decoder).Skip` of the source refines `Dec.step (.skip tag wt)`** (a Go slice holds fewer than 2^62 bytes; the
    remembered key span lies inside the buffer, as every `DecodeTag` leaves it) -/
theorem Skip_refines (fuel : Nat) (hf : 11 ≤ fuel) (p : Bytes) (off mode ks ke tag wt : BitVec 64)
    (hp : p.length < 2 ^ 62) (hoff : off.toNat ≤ p.length) (hks : ks.toNat ≤ p.length) (hke : ke.toNat ≤ p.length) :
    ∃ b e s, Decoder_Skip fuel p off mode ks ke tag wt = .ret (b, e) s ∧
      s.d_p = p ∧ s.d_mode = mode ∧ s.d_keyStart = ks ∧ s.d_keyEnd = ke ∧
      (match ((decOf p off ks ke (mode != 0#64)).step (.skip tag.toNat wt.toNat)) with
       | (d', .ok (.bytes x), _) => e = .nil ∧ b = x ∧ s.d_offset.toNat = d'.off
       | (_, .err, _) => e ≠ .nil ∧ s.d_offset = off
       | _ => False) :=
  (Skip_sim fuel hf p off mode ks ke tag wt hp hoff hks hke).elim

end Csproto.Bridge.SkipFuncs
