import Csproto.Bridge.EncoderFuncs
/-
  Bridge for the TRANSLATED packed writers: `(*Encoder).EncodePackedUInt64`, `…Int64`, `…UInt32`, `…Int32`, `…SInt64`, `…SInt32`
  and `…Bool` of `/repo`'s current encoder.go. The first six are two `range` loops (one that sums `SizeOfVarint` /
  `SizeOfZigZag` of the elements for the length prefix, one that writes the elements through `e.p[e.offset:]`) around the key
  and the length prefix; `EncodePackedBool` takes the element count as length prefix and stores one byte per element.

  `EncodePackedX_refines`: for every buffer shorter than 2^62 bytes, cursor, field number and list of fewer than 2^59
  elements (`EncodePackedBool`: 2^62; `hoff` is not needed, as in `Bridge/EncoderFuncs`), the translated method and `Enc.step` of the model agree — an empty list writes nothing; otherwise key, the
  length prefix computed from the per-element sizes, and the elements, exactly the model's bytes at the model's cursor; and
  the method panics exactly when key + prefix + elements do not fit.

  All seven have the shape `packedMethod` over the statements of `Bridge/EncStage`; `packedMethod_refines` ties that shape to
  `Enc.step`, `packed_refines` fills in the two loops of the six methods that write a varint per element (`sizes_forEach`:
  a `range` loop that adds up sizes in a 64-bit counter). Per method there remains which primitive writes an element and
  how it is sized.
-/
set_option linter.unusedVariables false
namespace Csproto.Bridge.PackedEncFuncs
open Csproto Csproto.Generated Csproto.Generated.WireFuncs Csproto.Bridge Csproto.Bridge.WireFuncs Csproto.Bridge.EncoderFuncs

theorem seq_next {σ ρ : Type} (a b : σ → Go.Out σ ρ) (s s' : σ) (h : a s = .next s') : Go.seq a b s = b s' :=
  Go.seq_next h b
theorem seq_panic {σ ρ : Type} (a b : σ → Go.Out σ ρ) (s : σ) (h : a s = .panic) : Go.seq a b s = .panic :=
  Go.seq_panic h b

theorem sumSizes_map {α β : Type} (f : β → Nat) (conv : α → β) (vs : List α) :
    sumSizes f (vs.map conv) = sumSizes (fun x => f (conv x)) vs := by
  simp only [sumSizes, List.map_map, Function.comp_def]

/-- a `range` loop whose body adds `k x` to the counter `sz` for the element `x` and leaves `fr` alone: the counter ends up as
    the sum, without wrapping as long as every summand is at most 10 and the bound of the hypothesis holds -/
theorem sizes_forEach {σ ρ α φ : Type} (bind : σ → α → σ) (body : σ → Go.Out σ ρ) (sz : σ → BitVec 64) (fr : σ → φ)
    (k : α → BitVec 64) (size : α → Nat) (hk : ∀ x, (k x).toNat = size x) (h10 : ∀ x, size x ≤ 10)
    (hbody : ∀ s x, ∃ s', body (bind s x) = .next s' ∧ fr s' = fr s ∧ sz s' = sz s + k x) :
    ∀ (vs : List α) (s : σ), (sz s).toNat + 10 * vs.length < 2 ^ 64 →
      ∃ s', Go.forEachGo bind body vs s = .next s' ∧ fr s' = fr s ∧ (sz s').toNat = (sz s).toNat + sumSizes size vs
  | [], s, _ => ⟨s, rfl, rfl, rfl⟩
  | x :: r, s, hb => by
    obtain ⟨s1, h1, hf1, hz1⟩ := hbody s x
    have := h10 x
    rw [List.length_cons] at hb
    have hadd : (sz s1).toNat = (sz s).toNat + size x := by
      rw [hz1, BitVec.toNat_add, hk, Nat.mod_eq_of_lt (by omega)]
    obtain ⟨s', h2, hf2, hz2⟩ := sizes_forEach bind body sz fr k size hk h10 hbody r s1 (by omega)
    refine ⟨s', ?_, hf2.trans hf1, ?_⟩
    · simp only [Go.forEachGo, h1]; exact h2
    · rw [hz2, hadd]; exact Nat.add_assoc _ _ _

/-- the shape of every `EncodePacked…` method: nothing for an empty list, otherwise the key and then `Rest` (length prefix and
    elements) -/
def packedMethod {σ α : Type} (xs : σ → List α) (Key Rest : σ → Go.Out σ Unit) : σ → Go.Out σ Unit :=
  Go.seq (Go.seq (fun s => if (BitVec.ofNat 64 (xs s).length == 0#64) then (fun s => .ret () s) s else Go.skip s)
    (Go.seq Key Rest)) (fun s => .ret () s)

section
variable {σ α : Type} (buf : σ → Bytes) (cur : σ → BitVec 64) (set : σ → Bytes → BitVec 64 → σ)
  (hbuf : ∀ s b c, buf (set s b c) = b) (hcur : ∀ s b c, cur (set s b c) = c)
  (tag : σ → BitVec 64) (xs : σ → List α) (hxs : ∀ s b c, xs (set s b c) = xs s)
include hbuf hcur hxs

/-- a method `M` of that shape whose key statement is `e.offset += EncodeTag(e.p[e.offset:], tag, WireTypeLengthDelimited)` and
    whose `Rest` stores `pay` refines the model's step for an `op` that stores nothing for an empty list and key ++ `pay`
    otherwise -/
theorem packedMethod_refines {Rest : σ → Go.Out σ Unit} (pay : Bytes) {op : EncOp} (fuel : Nat) (hf : 10 ≤ fuel)
    (M : Go.Out σ Unit) (s0 : σ) (hp : (buf s0).length < 2 ^ 63) (hn : (xs s0).length < 2 ^ 64)
    (hstep : ({ buf := buf s0, off := (cur s0).toNat } : Enc).step op =
      if (xs s0).isEmpty then .ok { buf := buf s0, off := (cur s0).toNat }
      else EncOut.ofRes (({ buf := buf s0, off := (cur s0).toNat } : Enc).store op.wire))
    (hwire : op.wire = if (xs s0).isEmpty then [] else encTag (tag s0).toNat wtLen ++ pay)
    (hRest : ∀ s, (buf s).length = (buf s0).length → (cur s).toNat ≤ (buf s).length → xs s = xs s0 →
      Writes buf cur (buf s) (cur s).toNat pay (fun _ => True) (Rest s))
    (hM : M = packedMethod xs (advance buf cur set (fun s d => EncodeTag fuel d (tag s) 2#64) (·.dest)) Rest s0) :
    Refines M buf cur (({ buf := buf s0, off := (cur s0).toNat } : Enc).step op) := by
  rw [hstep, hM]
  cases hvs : xs s0 with
  | nil =>
    simp only [List.isEmpty_nil, if_true]
    exact ⟨s0, by simp [packedMethod, Go.seq, hvs], rfl, rfl⟩
  | cons x r =>
    rw [hvs] at hwire hn
    have hlen : (BitVec.ofNat 64 (xs s0).length == 0#64) = false := by
      rw [hvs, beq_eq_false_iff_ne, Ne, ← BitVec.toNat_inj, BitVec.toNat_ofNat, Nat.mod_eq_of_lt hn]
      simp
    simp only [List.isEmpty_cons, Bool.false_eq_true, if_false] at hwire ⊢
    have hgo : ∀ Key, packedMethod xs Key Rest s0 = Go.seq (Go.seq Key Rest) (fun s => .ret () s) s0 := fun Key => by
      simp only [packedMethod, Go.seq, Go.skip, hlen, Bool.false_eq_true, if_false]
    rw [hwire, hgo]
    exact ((advance_writes buf cur set hbuf hcur (W := fun s d => EncodeTag fuel d (tag s) 2#64) (dst := (·.dest)) s0 _ hp
      (EncodeTag_emits fuel hf _ (tag s0) 2#64)).seq fun s1 hl hc ⟨b, c, hs⟩ => hRest s1 hl hc (by rw [hs, hxs])).refines

/-- the six methods that write a varint per element: `Rest` is `sz := 0` (`Init`), a first `range` loop adding up the
    elements' sizes (`Size` adds `k x` for the element `x`), `e.offset += EncodeVarint(e.p[e.offset:], sz)`, and a second
    `range` loop of `e.offset += W(e.p[e.offset:], v)`. The model has the elements converted by `conv`, sized by `f` and
    encoded by `g`. -/
theorem packed_refines {β τ : Type} (sz : σ → BitVec 64) (bind : σ → α → σ)
    (hbind : ∀ s x, buf (bind s x) = buf s ∧ cur (bind s x) = cur s) {Init Size : σ → Go.Out σ Unit} (k : α → BitVec 64)
    (conv : α → β) (f : β → Nat) (g : β → Bytes) (W : σ → Bytes → Go.Out τ (BitVec 64)) (dst : τ → Bytes) {op : EncOp}
    (fuel : Nat) (hf : 10 ≤ fuel) (M : Go.Out σ Unit) (s0 : σ)
    (hp : (buf s0).length < 2 ^ 62) (hn : (xs s0).length < 2 ^ 59)
    (hstep : ({ buf := buf s0, off := (cur s0).toNat } : Enc).step op =
      if ((xs s0).map conv).isEmpty then .ok { buf := buf s0, off := (cur s0).toNat }
      else EncOut.ofRes (({ buf := buf s0, off := (cur s0).toNat } : Enc).store op.wire))
    (hwire : op.wire = if ((xs s0).map conv).isEmpty then []
      else encTag (tag s0).toNat wtLen ++ encVarint (sumSizes f ((xs s0).map conv)) ++ (((xs s0).map conv).map g).flatten)
    (hk : ∀ x, (k x).toNat = f (conv x)) (hfg : ∀ y, f y = (g y).length) (h10 : ∀ x, (g (conv x)).length ≤ 10)
    (hW : ∀ s x d, Emits (W (bind s x) d) dst d (g (conv x)))
    (hInit : ∀ s, ∃ s', Init s = .next s' ∧ (buf s', cur s', xs s') = (buf s, cur s, xs s) ∧ sz s' = 0#64)
    (hSize : ∀ s x, ∃ s', Size (bind s x) = .next s' ∧ (buf s', cur s', xs s') = (buf s, cur s, xs s) ∧ sz s' = sz s + k x)
    (hM : M = packedMethod xs (advance buf cur set (fun s d => EncodeTag fuel d (tag s) 2#64) (·.dest))
      (Go.seq Init (Go.seq (Go.forEach xs bind Size) (Go.seq (advance buf cur set (fun s d => EncodeVarint fuel d (sz s)) (·.dest))
        (Go.forEach xs bind (advance buf cur set W dst))))) s0) :
    Refines M buf cur (({ buf := buf s0, off := (cur s0).toNat } : Enc).step op) := by
  refine packedMethod_refines buf cur set hbuf hcur tag xs hxs _ fuel hf M s0 (by omega) (by omega) (by rw [hstep, List.isEmpty_map])
    (by rw [hwire, List.isEmpty_map, List.append_assoc]) (fun s1 hl1 hc1 hx1 => ?_) hM
  -- `s1`: behind the key. `sz := 0` gives `s2`, the first loop `s3`: buffer, cursor and list as in `s1`, `sz` the sum of the sizes
  obtain ⟨s2, h2, hfr2, hz2⟩ := hInit s1
  simp only [Prod.mk.injEq] at hfr2
  obtain ⟨b2, c2, x2⟩ := hfr2
  obtain ⟨s3, h3, hfr3, hz3⟩ := sizes_forEach bind Size sz (fun s => (buf s, cur s, xs s)) k (fun x => f (conv x)) hk
    (fun x => by rw [hfg]; exact h10 x) hSize (xs s2) s2
    (by rw [hz2, x2, hx1]; simp only [BitVec.toNat_ofNat, Nat.zero_mod]; omega)
  simp only [Prod.mk.injEq] at hfr3
  obtain ⟨b3, c3, x3⟩ := hfr3
  rw [Go.seq_next h2, Go.seq_next (a := Go.forEach xs bind Size) h3]
  have hz : (sz s3).toNat = sumSizes f ((xs s0).map conv) := by
    rw [hz3, hz2, sumSizes_map, x2, hx1]; simp only [BitVec.toNat_ofNat, Nat.zero_mod, Nat.zero_add]
  have hl3 : (buf s3).length = (buf s0).length := by rw [b3, b2, hl1]
  -- the length prefix, then the second loop, started in a state `s4` behind the prefix
  have hW' := ((advance_writes (ρ := Unit) buf cur set hbuf hcur (W := fun s d => EncodeVarint fuel d (sz s)) (dst := (·.dest)) s3 _
      (by omega) (EncodeVarint_emits fuel hf _ (sz s3))).seq (b := (((xs s0).map conv).map g).flatten)
    (B := Go.forEach xs bind (advance buf cur set W dst))
    fun s4 hl4 hc4 ⟨b, c, hs⟩ => by
      rw [List.map_map, Go.forEach, show xs s4 = xs s0 by rw [hs, hxs, x3, x2, hx1]]
      exact Writes.forEach bind (advance buf cur set W dst) (fun x => g (conv x))
        (fun s x hp => by
          have h := advance_writes (ρ := Unit) buf cur set hbuf hcur (bind s x) _ ((hbind s x).1 ▸ hp) (hW s x _)
          rwa [(hbind s x).1, (hbind s x).2] at h)
        (xs s0) s4 (by omega) hc4).mono fun _ _ => trivial
  rw [hz, b3, b2, c3, c2] at hW'
  exact hW'

end

/-! ## The loops of `EncodePackedUInt64` and `EncodePackedBool` on the generated state types

  `sizes_loop` and `write_loop` are the two `range` loops of `EncodePackedUInt64` (the first adds up the elements' sizes, the
  second writes the elements), `bool_loop` is the loop of `EncodePackedBool`, each on the state type the translator generated:
  instances of `sizes_forEach` and `Writes.forEach`. -/

abbrev ES := Encoder_EncodePackedUInt64.St

def sizesBody : ES → Go.Out ES Unit := (fun s => .next { s with sz := (s.sz + (SizeOfVarint s.v)) })
def bindV : ES → BitVec 64 → ES := (fun s x => { s with v := x })

theorem sizes_loop : ∀ (vs : List (BitVec 64)) (s : ES), s.sz.toNat + 10 * vs.length < 2 ^ 63 →
    ∃ s', Go.forEachGo bindV sizesBody vs s = .next s' ∧ s'.e_p = s.e_p ∧ s'.e_offset = s.e_offset ∧ s'.vs = s.vs ∧ s'.tag = s.tag ∧
      s'.sz.toNat = s.sz.toNat + sumSizes sizeOfVarint (vs.map (·.toNat)) := by
  intro vs s hb
  obtain ⟨s', h, hfr, hsz⟩ := sizes_forEach bindV sizesBody (·.sz) (fun s => (s.e_p, s.e_offset, s.vs, s.tag)) SizeOfVarint
    (fun x => sizeOfVarint x.toNat) sizeOfVarint_src (fun x => by rw [sizeOfVarint_eq_length]; exact encVarint_toNat_le10 x)
    (fun s x => ⟨_, rfl, rfl, rfl⟩) vs s (by omega)
  simp only [Prod.mk.injEq] at hfr
  exact ⟨s', h, hfr.1, hfr.2.1, hfr.2.2.1, hfr.2.2.2, by rw [hsz, sumSizes_map]⟩

def writeBody (fuel : Nat) : ES → Go.Out ES Unit :=
  (fun s => if ((s.e_offset).toNat ≤ s.e_p.length) then match (EncodeVarint fuel (s.e_p.drop (s.e_offset).toNat) s.v) with | .ret r c => .next { s with e_p := s.e_p.take (s.e_offset).toNat ++ c.dest, e_offset := (s.e_offset + r) } | .next _ => .panic | .panic => .panic | .diverge => .diverge else .panic)

def flat (vs : List (BitVec 64)) : Bytes := ((vs.map (·.toNat)).map encVarint).flatten

abbrev EB := Encoder_EncodePackedBool.St
def bindB : EB → Bool → EB := (fun s x => { s with v := x })
def boolBody : EB → Go.Out EB Unit :=
  (Go.seq (fun s => if s.v then (fun s => if ((s.e_offset).toNat < s.e_p.length) then .next { s with e_p := Go.wr s.e_p (s.e_offset).toNat 1#8 } else .panic) s else (fun s => if ((s.e_offset).toNat < s.e_p.length) then .next { s with e_p := Go.wr s.e_p (s.e_offset).toNat 0#8 } else .panic) s)
    (fun s => .next { s with e_offset := (s.e_offset + 1#64) }))

theorem bools_write (vs : List Bool) (s : EB) (hp : s.e_p.length < 2 ^ 63) (ho : s.e_offset.toNat ≤ s.e_p.length) :
    Writes (·.e_p) (·.e_offset) s.e_p s.e_offset.toNat (vs.map boolByte) (fun _ => True) (Go.forEachGo bindB boolBody vs s) := by
  have h := Writes.forEach (buf := (·.e_p)) (cur := (·.e_offset)) bindB boolBody (fun x => [boolByte x])
    (fun s x hp => storeBool_writes (·.e_p) (·.e_offset) (fun s b c => { s with e_p := b, e_offset := c }) (fun _ _ _ => rfl) (fun _ _ _ => rfl)
      (v := (·.v)) (bindB s x) rfl hp) vs s hp ho
  rwa [← List.flatMap_def, ← List.map_eq_flatMap] at h

theorem bool_loop : ∀ (vs : List Bool) (s : EB), s.e_p.length < 2 ^ 62 → s.e_offset.toNat ≤ s.e_p.length →
    (s.e_offset.toNat + vs.length ≤ s.e_p.length →
      ∃ s', Go.forEachGo bindB boolBody vs s = .next s' ∧ s'.e_p = writeAt s.e_p s.e_offset.toNat (vs.map boolByte) ∧
        s'.e_offset.toNat = s.e_offset.toNat + vs.length) ∧
    (¬ s.e_offset.toNat + vs.length ≤ s.e_p.length → Go.forEachGo bindB boolBody vs s = .panic) := by
  intro vs s hp ho
  have h := bools_write vs s (by omega) ho
  rw [Writes, List.length_map] at h
  exact ⟨fun hfit => let ⟨s', h1, h2, h3, _⟩ := h.1 hfit; ⟨s', h1, h2, h3⟩, h.2⟩

section
/- Each generated body is, up to unfolding, `packedMethod` over `advance` statements, and `writeBody` is an `advance`
   statement, which `rfl` or unification checks under the settings explained in `Bridge/EncoderFuncs`. -/
set_option smartUnfolding false
attribute [local irreducible] EncodeTag EncodeVarint EncodeZigZag32 EncodeZigZag64 EncOut.ofRes

theorem write_loop (fuel : Nat) (hf : 10 ≤ fuel) : ∀ (vs : List (BitVec 64)) (s : ES), s.e_p.length < 2 ^ 62 → s.e_offset.toNat ≤ s.e_p.length →
    (s.e_offset.toNat + (flat vs).length ≤ s.e_p.length →
      ∃ s', Go.forEachGo bindV (writeBody fuel) vs s = .next s' ∧ s'.e_p = writeAt s.e_p s.e_offset.toNat (flat vs) ∧
        s'.e_offset.toNat = s.e_offset.toNat + (flat vs).length) ∧
    (¬ s.e_offset.toNat + (flat vs).length ≤ s.e_p.length → Go.forEachGo bindV (writeBody fuel) vs s = .panic) := by
  intro vs s hp ho
  have h := Writes.forEach (buf := (·.e_p)) (cur := (·.e_offset)) bindV (writeBody fuel) (fun x => encVarint x.toNat)
    (fun s x hp => (advance_writes (·.e_p) (·.e_offset) (fun s b c => { s with e_p := b, e_offset := c }) (fun _ _ _ => rfl) (fun _ _ _ => rfl)
      (W := fun s d => EncodeVarint fuel d s.v) (dst := (·.dest)) (bindV s x) _ hp (EncodeVarint_emits fuel hf _ x))) vs s (by omega) ho
  rw [flat, List.map_map]
  exact ⟨fun hfit => let ⟨s', h1, h2, h3, _⟩ := h.1 hfit; ⟨s', h1, h2, h3⟩, h.2⟩

/-- **`(*Encoder).EncodePackedUInt64` of the source refines `Enc.step (.packedVarint tag vs)`** -/
theorem EncodePackedUInt64_refines (fuel : Nat) (hf : 10 ≤ fuel) (p : Bytes) (off tag : BitVec 64) (vs : List (BitVec 64))
    (hp : p.length < 2 ^ 62) (hoff : off.toNat ≤ p.length) (hvs : vs.length < 2 ^ 59) :
    match ({ buf := p, off := off.toNat } : Enc).step (.packedVarint tag.toNat (vs.map (·.toNat))) with
    | .ok e' => ∃ s, Encoder_EncodePackedUInt64 fuel p off tag vs = .ret () s ∧ s.e_p = e'.buf ∧ s.e_offset.toNat = e'.off
    | .panic => Encoder_EncodePackedUInt64 fuel p off tag vs = .panic
    | .err _ => False :=
  (packed_refines (σ := ES) (·.e_p) (·.e_offset) (fun s b c => { s with e_p := b, e_offset := c }) (fun _ _ _ => rfl) (fun _ _ _ => rfl)
    (tag := (·.tag)) (xs := (·.vs)) (hxs := fun _ _ _ => rfl) (sz := (·.sz)) (bind := fun s x => { s with v := x }) (hbind := fun _ _ => ⟨rfl, rfl⟩)
    (Init := fun s => .next { s with sz := 0#64 }) (Size := fun s => .next { s with sz := s.sz + SizeOfVarint s.v })
    (k := SizeOfVarint) (conv := BitVec.toNat) (f := sizeOfVarint) (g := encVarint)
    (W := fun s d => EncodeVarint fuel d s.v) (dst := (·.dest))
    (op := .packedVarint tag.toNat (vs.map BitVec.toNat))
    fuel hf (Encoder_EncodePackedUInt64 fuel p off tag vs) { e_p := p, e_offset := off, tag := tag, vs := vs }
    (hp := hp) (hn := hvs) (hstep := rfl) (hwire := rfl)
    (hk := sizeOfVarint_src)
    (hfg := sizeOfVarint_eq_length)
    (h10 := encVarint_toNat_le10)
    (hW := fun _ x d => EncodeVarint_emits fuel hf d x)
    (hInit := fun s => ⟨_, rfl, rfl, rfl⟩) (hSize := fun s x => ⟨_, rfl, rfl, rfl⟩)
    (hM := by rfl) :)

/-! ## `EncodePackedInt32`: every element converted by `uint64(v)`, which sign-extends -/

theorem seq_nextI32 {σ ρ : Type} (a b : σ → Go.Out σ ρ) (s s' : σ) (h : a s = .next s') : Go.seq a b s = b s' :=
  Go.seq_next h b
theorem seq_panicI32 {σ ρ : Type} (a b : σ → Go.Out σ ρ) (s : σ) (h : a s = .panic) : Go.seq a b s = .panic :=
  Go.seq_panic h b

/-- **`(*Encoder).EncodePackedInt32` of the source refines `Enc.step (.packedVarint tag (vs.map uint64))`**: a negative element is
    sized and written as the ten bytes of its sign extension -/
theorem EncodePackedInt32_refines (fuel : Nat) (hf : 10 ≤ fuel) (p : Bytes) (off tag : BitVec 64) (vs : List (BitVec 32))
    (hp : p.length < 2 ^ 62) (hoff : off.toNat ≤ p.length) (hvs : vs.length < 2 ^ 59) :
    match ({ buf := p, off := off.toNat } : Enc).step (.packedVarint tag.toNat (vs.map (fun v => (BitVec.signExtend 64 v).toNat))) with
    | .ok e' => ∃ s, Encoder_EncodePackedInt32 fuel p off tag vs = .ret () s ∧ s.e_p = e'.buf ∧ s.e_offset.toNat = e'.off
    | .panic => Encoder_EncodePackedInt32 fuel p off tag vs = .panic
    | .err _ => False :=
  (packed_refines (σ := Encoder_EncodePackedInt32.St) (·.e_p) (·.e_offset) (fun s b c => { s with e_p := b, e_offset := c }) (fun _ _ _ => rfl) (fun _ _ _ => rfl)
    (tag := (·.tag)) (xs := (·.vs)) (hxs := fun _ _ _ => rfl) (sz := (·.sz)) (bind := fun s x => { s with v := x }) (hbind := fun _ _ => ⟨rfl, rfl⟩)
    (Init := fun s => .next { s with sz := 0#64 }) (Size := fun s => .next { s with sz := s.sz + SizeOfVarint (BitVec.signExtend 64 s.v) })
    (k := fun v => SizeOfVarint (BitVec.signExtend 64 v)) (conv := fun v => (BitVec.signExtend 64 v).toNat) (f := sizeOfVarint) (g := encVarint)
    (W := fun s d => EncodeVarint fuel d (BitVec.signExtend 64 s.v)) (dst := (·.dest))
    (op := .packedVarint tag.toNat (vs.map (fun v => (BitVec.signExtend 64 v).toNat)))
    fuel hf (Encoder_EncodePackedInt32 fuel p off tag vs) { e_p := p, e_offset := off, tag := tag, vs := vs }
    (hp := hp) (hn := hvs) (hstep := rfl) (hwire := rfl)
    (hk := fun x => sizeOfVarint_src _)
    (hfg := sizeOfVarint_eq_length)
    (h10 := fun x => encVarint_toNat_le10 _)
    (hW := fun _ x d => EncodeVarint_emits fuel hf d (BitVec.signExtend 64 x))
    (hInit := fun s => ⟨_, rfl, rfl, rfl⟩) (hSize := fun s x => ⟨_, rfl, rfl, rfl⟩)
    (hM := by rfl) :)

/-! ## `EncodePackedInt64`: `uint64(v)` of an int64 is the same 64 bits -/

theorem seq_nextI64 {σ ρ : Type} (a b : σ → Go.Out σ ρ) (s s' : σ) (h : a s = .next s') : Go.seq a b s = b s' :=
  Go.seq_next h b
theorem seq_panicI64 {σ ρ : Type} (a b : σ → Go.Out σ ρ) (s : σ) (h : a s = .panic) : Go.seq a b s = .panic :=
  Go.seq_panic h b

/-- **`(*Encoder).EncodePackedInt64` of the source refines `Enc.step (.packedVarint tag (vs.map uint64))`** -/
theorem EncodePackedInt64_refines (fuel : Nat) (hf : 10 ≤ fuel) (p : Bytes) (off tag : BitVec 64) (vs : List (BitVec 64))
    (hp : p.length < 2 ^ 62) (hoff : off.toNat ≤ p.length) (hvs : vs.length < 2 ^ 59) :
    match ({ buf := p, off := off.toNat } : Enc).step (.packedVarint tag.toNat (vs.map (·.toNat))) with
    | .ok e' => ∃ s, Encoder_EncodePackedInt64 fuel p off tag vs = .ret () s ∧ s.e_p = e'.buf ∧ s.e_offset.toNat = e'.off
    | .panic => Encoder_EncodePackedInt64 fuel p off tag vs = .panic
    | .err _ => False :=
  (packed_refines (σ := Encoder_EncodePackedInt64.St) (·.e_p) (·.e_offset) (fun s b c => { s with e_p := b, e_offset := c }) (fun _ _ _ => rfl) (fun _ _ _ => rfl)
    (tag := (·.tag)) (xs := (·.vs)) (hxs := fun _ _ _ => rfl) (sz := (·.sz)) (bind := fun s x => { s with v := x }) (hbind := fun _ _ => ⟨rfl, rfl⟩)
    (Init := fun s => .next { s with sz := 0#64 }) (Size := fun s => .next { s with sz := s.sz + SizeOfVarint s.v })
    (k := SizeOfVarint) (conv := BitVec.toNat) (f := sizeOfVarint) (g := encVarint)
    (W := fun s d => EncodeVarint fuel d s.v) (dst := (·.dest))
    (op := .packedVarint tag.toNat (vs.map BitVec.toNat))
    fuel hf (Encoder_EncodePackedInt64 fuel p off tag vs) { e_p := p, e_offset := off, tag := tag, vs := vs }
    (hp := hp) (hn := hvs) (hstep := rfl) (hwire := rfl)
    (hk := sizeOfVarint_src)
    (hfg := sizeOfVarint_eq_length)
    (h10 := encVarint_toNat_le10)
    (hW := fun _ x d => EncodeVarint_emits fuel hf d x)
    (hInit := fun s => ⟨_, rfl, rfl, rfl⟩) (hSize := fun s x => ⟨_, rfl, rfl, rfl⟩)
    (hM := by rfl) :)

/-! ## `EncodePackedUInt32`: `uint64(v)` zero-extends -/

theorem seq_nextU32 {σ ρ : Type} (a b : σ → Go.Out σ ρ) (s s' : σ) (h : a s = .next s') : Go.seq a b s = b s' :=
  Go.seq_next h b
theorem seq_panicU32 {σ ρ : Type} (a b : σ → Go.Out σ ρ) (s : σ) (h : a s = .panic) : Go.seq a b s = .panic :=
  Go.seq_panic h b

/-- **`(*Encoder).EncodePackedUInt32` of the source refines `Enc.step (.packedVarint tag (vs.map uint64))`** -/
theorem EncodePackedUInt32_refines (fuel : Nat) (hf : 10 ≤ fuel) (p : Bytes) (off tag : BitVec 64) (vs : List (BitVec 32))
    (hp : p.length < 2 ^ 62) (hoff : off.toNat ≤ p.length) (hvs : vs.length < 2 ^ 59) :
    match ({ buf := p, off := off.toNat } : Enc).step (.packedVarint tag.toNat (vs.map (fun v => (BitVec.setWidth 64 v).toNat))) with
    | .ok e' => ∃ s, Encoder_EncodePackedUInt32 fuel p off tag vs = .ret () s ∧ s.e_p = e'.buf ∧ s.e_offset.toNat = e'.off
    | .panic => Encoder_EncodePackedUInt32 fuel p off tag vs = .panic
    | .err _ => False :=
  (packed_refines (σ := Encoder_EncodePackedUInt32.St) (·.e_p) (·.e_offset) (fun s b c => { s with e_p := b, e_offset := c }) (fun _ _ _ => rfl) (fun _ _ _ => rfl)
    (tag := (·.tag)) (xs := (·.vs)) (hxs := fun _ _ _ => rfl) (sz := (·.sz)) (bind := fun s x => { s with v := x }) (hbind := fun _ _ => ⟨rfl, rfl⟩)
    (Init := fun s => .next { s with sz := 0#64 }) (Size := fun s => .next { s with sz := s.sz + SizeOfVarint (BitVec.setWidth 64 s.v) })
    (k := fun v => SizeOfVarint (BitVec.setWidth 64 v)) (conv := fun v => (BitVec.setWidth 64 v).toNat) (f := sizeOfVarint) (g := encVarint)
    (W := fun s d => EncodeVarint fuel d (BitVec.setWidth 64 s.v)) (dst := (·.dest))
    (op := .packedVarint tag.toNat (vs.map (fun v => (BitVec.setWidth 64 v).toNat)))
    fuel hf (Encoder_EncodePackedUInt32 fuel p off tag vs) { e_p := p, e_offset := off, tag := tag, vs := vs }
    (hp := hp) (hn := hvs) (hstep := rfl) (hwire := rfl)
    (hk := fun x => sizeOfVarint_src _)
    (hfg := sizeOfVarint_eq_length)
    (h10 := fun x => encVarint_toNat_le10 _)
    (hW := fun _ x d => EncodeVarint_emits fuel hf d (BitVec.setWidth 64 x))
    (hInit := fun s => ⟨_, rfl, rfl, rfl⟩) (hSize := fun s x => ⟨_, rfl, rfl, rfl⟩)
    (hM := by rfl) :)

/-! ## `EncodePackedSInt64` (sizes by `SizeOfZigZag`, elements by the translated `EncodeZigZag64`) -/

theorem seq_nextS64 {σ ρ : Type} (a b : σ → Go.Out σ ρ) (s s' : σ) (h : a s = .next s') : Go.seq a b s = b s' :=
  Go.seq_next h b
theorem seq_panicS64 {σ ρ : Type} (a b : σ → Go.Out σ ρ) (s : σ) (h : a s = .panic) : Go.seq a b s = .panic :=
  Go.seq_panic h b

/-- **`(*Encoder).EncodePackedSInt64` of the source refines `Enc.step (.packedZigzag64 tag vs)`** -/
theorem EncodePackedSInt64_refines (fuel : Nat) (hf : 10 ≤ fuel) (p : Bytes) (off tag : BitVec 64) (vs : List (BitVec 64))
    (hp : p.length < 2 ^ 62) (hoff : off.toNat ≤ p.length) (hvs : vs.length < 2 ^ 59) :
    match ({ buf := p, off := off.toNat } : Enc).step (.packedZigzag64 tag.toNat (vs.map (·.toInt))) with
    | .ok e' => ∃ s, Encoder_EncodePackedSInt64 fuel p off tag vs = .ret () s ∧ s.e_p = e'.buf ∧ s.e_offset.toNat = e'.off
    | .panic => Encoder_EncodePackedSInt64 fuel p off tag vs = .panic
    | .err _ => False :=
  (packed_refines (σ := Encoder_EncodePackedSInt64.St) (·.e_p) (·.e_offset) (fun s b c => { s with e_p := b, e_offset := c }) (fun _ _ _ => rfl) (fun _ _ _ => rfl)
    (tag := (·.tag)) (xs := (·.vs)) (hxs := fun _ _ _ => rfl) (sz := (·.sz)) (bind := fun s x => { s with v := x }) (hbind := fun _ _ => ⟨rfl, rfl⟩)
    (Init := fun s => .next { s with sz := 0#64 }) (Size := fun s => .next { s with sz := s.sz + SizeOfZigZag s.v })
    (k := SizeOfZigZag) (conv := BitVec.toInt) (f := sizeOfZigZag) (g := encZigZag64)
    (W := fun s d => EncodeZigZag64 fuel d s.v) (dst := (·.dest))
    (op := .packedZigzag64 tag.toNat (vs.map BitVec.toInt))
    fuel hf (Encoder_EncodePackedSInt64 fuel p off tag vs) { e_p := p, e_offset := off, tag := tag, vs := vs }
    (hp := hp) (hn := hvs) (hstep := rfl) (hwire := rfl)
    (hk := sizeOfZigZag_src)
    (hfg := fun i => sizeOfVarint_eq_length _)
    (h10 := fun x => encVarint_length_le_10 (zigzag_lt_two64 (inI64_toInt x)))
    (hW := fun _ x d => EncodeZigZag64_emits fuel hf d x)
    (hInit := fun s => ⟨_, rfl, rfl, rfl⟩) (hSize := fun s x => ⟨_, rfl, rfl, rfl⟩)
    (hM := by rfl) :)

/-! ## `EncodePackedSInt32` (sizes by `SizeOfZigZag(uint64(v))` of the sign-extended element, elements by `EncodeZigZag32`) -/

theorem seq_nextS32 {σ ρ : Type} (a b : σ → Go.Out σ ρ) (s s' : σ) (h : a s = .next s') : Go.seq a b s = b s' :=
  Go.seq_next h b
theorem seq_panicS32 {σ ρ : Type} (a b : σ → Go.Out σ ρ) (s : σ) (h : a s = .panic) : Go.seq a b s = .panic :=
  Go.seq_panic h b

/-- **`(*Encoder).EncodePackedSInt32` of the source refines `Enc.step (.packedZigzag32 tag vs)`** -/
theorem EncodePackedSInt32_refines (fuel : Nat) (hf : 10 ≤ fuel) (p : Bytes) (off tag : BitVec 64) (vs : List (BitVec 32))
    (hp : p.length < 2 ^ 62) (hoff : off.toNat ≤ p.length) (hvs : vs.length < 2 ^ 59) :
    match ({ buf := p, off := off.toNat } : Enc).step (.packedZigzag32 tag.toNat (vs.map (·.toInt))) with
    | .ok e' => ∃ s, Encoder_EncodePackedSInt32 fuel p off tag vs = .ret () s ∧ s.e_p = e'.buf ∧ s.e_offset.toNat = e'.off
    | .panic => Encoder_EncodePackedSInt32 fuel p off tag vs = .panic
    | .err _ => False :=
  (packed_refines (σ := Encoder_EncodePackedSInt32.St) (·.e_p) (·.e_offset) (fun s b c => { s with e_p := b, e_offset := c }) (fun _ _ _ => rfl) (fun _ _ _ => rfl)
    (tag := (·.tag)) (xs := (·.vs)) (hxs := fun _ _ _ => rfl) (sz := (·.sz)) (bind := fun s x => { s with v := x }) (hbind := fun _ _ => ⟨rfl, rfl⟩)
    (Init := fun s => .next { s with sz := 0#64 }) (Size := fun s => .next { s with sz := s.sz + SizeOfZigZag (BitVec.signExtend 64 s.v) })
    (k := fun v => SizeOfZigZag (BitVec.signExtend 64 v)) (conv := BitVec.toInt) (f := sizeOfZigZag) (g := encZigZag32)
    (W := fun s d => EncodeZigZag32 fuel d s.v) (dst := (·.dest))
    (op := .packedZigzag32 tag.toNat (vs.map BitVec.toInt))
    fuel hf (Encoder_EncodePackedSInt32 fuel p off tag vs) { e_p := p, e_offset := off, tag := tag, vs := vs }
    (hp := hp) (hn := hvs) (hstep := rfl) (hwire := rfl)
    (hk := fun x => by rw [sizeOfZigZag_src, BitVec.toInt_signExtend_of_le (by omega)])
    (hfg := fun i => sizeOfVarint_eq_length _)
    (h10 := fun x => encVarint_length_le_10 (Nat.lt_trans (zigzag_lt_two32 (inI32_toInt x)) (by decide)))
    (hW := fun _ x d => EncodeZigZag32_emits fuel hf d x)
    (hInit := fun s => ⟨_, rfl, rfl, rfl⟩) (hSize := fun s x => ⟨_, rfl, rfl, rfl⟩)
    (hM := by rfl) :)

/-! ## `EncodePackedBool`: the element count as length prefix, one indexed store per element -/

/-- **`(*Encoder).EncodePackedBool` of the source refines `Enc.step (.packedBool tag vs)`**: nothing for an empty list;
    otherwise key, the element count as the length prefix, and one byte per element -/
theorem EncodePackedBool_refines (fuel : Nat) (hf : 10 ≤ fuel) (p : Bytes) (off tag : BitVec 64) (vs : List Bool)
    (hp : p.length < 2 ^ 62) (hoff : off.toNat ≤ p.length) (hvs : vs.length < 2 ^ 62) :
    match ({ buf := p, off := off.toNat } : Enc).step (.packedBool tag.toNat vs) with
    | .ok e' => ∃ s, Encoder_EncodePackedBool fuel p off tag vs = .ret () s ∧ s.e_p = e'.buf ∧ s.e_offset.toNat = e'.off
    | .panic => Encoder_EncodePackedBool fuel p off tag vs = .panic
    | .err _ => False := by
  refine (packedMethod_refines (σ := EB) (·.e_p) (·.e_offset) (fun s b c => { s with e_p := b, e_offset := c }) (fun _ _ _ => rfl) (fun _ _ _ => rfl)
    (tag := (·.tag)) (xs := (·.vs)) (hxs := fun _ _ _ => rfl)
    (pay := encVarint vs.length ++ vs.map boolByte) (op := .packedBool tag.toNat vs)
    (Rest := Go.seq (advance (·.e_p) (·.e_offset) (fun s b c => { s with e_p := b, e_offset := c })
        (fun s d => EncodeVarint fuel d (BitVec.ofNat 64 s.vs.length)) (·.dest))
      (Go.forEach (·.vs) bindB boolBody))
    fuel hf (Encoder_EncodePackedBool fuel p off tag vs) { e_p := p, e_offset := off, tag := tag, vs := vs }
    (hp := Nat.lt_trans hp (by decide)) (hn := Nat.lt_trans hvs (by decide))
    (hstep := rfl)
    (hwire := by simp only [EncOp.wire, List.append_assoc])
    (hRest := fun s hl ho hx => ?_)
    (hM := by rfl) :)
  have hl : s.e_p.length = p.length := hl
  have hx : s.vs = vs := hx
  have hn : (BitVec.ofNat 64 s.vs.length).toNat = vs.length := by rw [hx]; exact Nat.mod_eq_of_lt (Nat.lt_trans hvs (by decide))
  have hW := EncodeVarint_emits fuel hf (s.e_p.drop s.e_offset.toNat) (BitVec.ofNat 64 s.vs.length)
  rw [hn] at hW
  refine ((advance_writes (·.e_p) (·.e_offset) (fun s b c => { s with e_p := b, e_offset := c }) (fun _ _ _ => rfl) (fun _ _ _ => rfl)
    (W := fun s d => EncodeVarint fuel d (BitVec.ofNat 64 s.vs.length)) (dst := (·.dest)) s _ (by omega) hW).seq (R := fun _ _ => True)
    fun s' hl' ho' ⟨b, c, hs⟩ => ?_).mono fun _ _ => trivial
  rw [Go.forEach, show s'.vs = vs by rw [hs]; exact hx]
  exact bools_write vs s' (by omega) ho'

end

end Csproto.Bridge.PackedEncFuncs
