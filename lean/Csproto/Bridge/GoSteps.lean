import Csproto.Model.GoSem
/-
  Running a translated body (a nest of `Go.seq`, `Go.loop`) one statement at a time, and reading comparisons of Go's `int` and
  `uint64` (`BitVec 64`) on values that do not wrap as comparisons of numbers.
-/
namespace Csproto.Go
variable {σ ρ : Type} {a : σ → Out σ ρ} {c : σ → Option Bool} {s s' s₁ s₂ : σ} {r : ρ}

theorem seq_assoc (a b c : σ → Out σ ρ) : seq (seq a b) c = seq a (seq b c) :=
  funext fun s => by unfold seq; cases a s <;> rfl

theorem seq_skip (b : σ → Out σ ρ) : seq skip b = b := rfl

theorem seq_congr {a' : σ → Out σ ρ} (h : a s = a' s') (b : σ → Out σ ρ) : seq a b s = seq a' b s' := by unfold seq; rw [h]
theorem seq_next (h : a s = .next s') (b : σ → Out σ ρ) : seq a b s = b s' := by unfold seq; rw [h]
theorem seq_ret (h : a s = .ret r s') (b : σ → Out σ ρ) : seq a b s = .ret r s' := by unfold seq; rw [h]
theorem seq_panic (h : a s = .panic) (b : σ → Out σ ρ) : seq a b s = .panic := by unfold seq; rw [h]

theorem seq_ite (c : σ → Prop) [∀ s, Decidable (c s)] (a a' b : σ → Out σ ρ) (s : σ) :
    seq (fun s => if c s then a s else a' s) b s = if c s then seq a b s else seq a' b s := by
  by_cases h : c s
  · rw [if_pos h]; exact seq_congr (a := fun s => if c s then a s else a' s) (if_pos h) b
  · rw [if_neg h]; exact seq_congr (a := fun s => if c s then a s else a' s) (if_neg h) b

theorem seq_guard_skip (c : σ → Bool) (r b : σ → Out σ ρ) (s : σ) (h : ¬ c s = true) :
    seq (fun s => if c s = true then r s else skip s) b s = b s :=
  (seq_ite (fun s => c s = true) r skip b s).trans (if_neg h)
theorem seq_guard_take (c : σ → Bool) (r b : σ → Out σ ρ) (s : σ) (h : c s = true) :
    seq (fun s => if c s = true then r s else skip s) b s = seq r b s :=
  (seq_ite (fun s => c s = true) r skip b s).trans (if_pos h)
theorem seq_guard (c : σ → Bool) (r : σ → ρ) (b : σ → Out σ ρ) (s : σ) :
    seq (fun s => if c s then .ret (r s) s else skip s) b s = if c s then .ret (r s) s else b s :=
  seq_ite (fun s => c s = true) (fun s => .ret (r s) s) skip b s

theorem loop_stop (hc : c s = some false) (b p : σ → Out σ ρ) (fuel : Nat) : loop c b p (fuel + 1) s = .next s := by
  rw [loop, hc]
theorem loop_step {b p : σ → Out σ ρ} (hc : c s = some true) (hb : b s = .next s₁) (hp : p s₁ = .next s₂) (fuel : Nat) :
    loop c b p (fuel + 1) s = loop c b p fuel s₂ := by
  simp only [loop, hc, hb, hp]
theorem loop_ret {b : σ → Out σ ρ} (hc : c s = some true) (hb : b s = .ret r s') (p : σ → Out σ ρ) (fuel : Nat) :
    loop c b p (fuel + 1) s = .ret r s' := by
  rw [loop, hc, hb]
theorem loop_panic {b : σ → Out σ ρ} (hc : c s = some true) (hb : b s = .panic) (p : σ → Out σ ρ) (fuel : Nat) :
    loop c b p (fuel + 1) s = .panic := by
  rw [loop, hc, hb]

theorem lt_of_drop_cons {p : Bytes} {k : Nat} {bt : UInt8} {rest : Bytes} (h : p.drop k = bt :: rest) : k < p.length := by
  apply Nat.lt_of_not_le
  intro hle
  rw [List.drop_eq_nil_of_le hle] at h
  cases h

theorem rd_drop (p : Bytes) (k : Nat) (bt : UInt8) (rest : Bytes) (h : p.drop k = bt :: rest) : rd p k = bt.toBitVec := by
  have : p[k]? = some bt := by rw [← List.head?_drop, h]; rfl
  rw [rd, List.getD_eq_getElem?_getD, this]; rfl

theorem wr_at_length (pre : Bytes) (x : UInt8) (t : Bytes) (b : BitVec 8) :
    wr (pre ++ x :: t) pre.length b = pre ++ UInt8.ofBitVec b :: t := by
  rw [wr, List.set_append_right _ _ (Nat.le_refl _), Nat.sub_self]; rfl

end Csproto.Go

namespace Csproto.Bridge.WireFuncs

theorem toNat_ofNat_lt {w n : Nat} (h : n < 2 ^ w) : (BitVec.ofNat w n).toNat = n := by
  rw [BitVec.toNat_ofNat, Nat.mod_eq_of_lt h]

theorem toInt_of_lt {x : BitVec 64} (h : x.toNat < 2 ^ 63) : x.toInt = x.toNat :=
  BitVec.toInt_eq_toNat_of_lt (by omega)

theorem slt_eq_of_lt {x y : BitVec 64} (hx : x.toNat < 2 ^ 63) (hy : y.toNat < 2 ^ 63) :
    x.slt y = decide (x.toNat < y.toNat) := by
  rw [BitVec.slt_eq_decide, toInt_of_lt hx, toInt_of_lt hy]
  exact decide_eq_decide.mpr Int.ofNat_lt

theorem sle_eq_of_lt {x y : BitVec 64} (hx : x.toNat < 2 ^ 63) (hy : y.toNat < 2 ^ 63) :
    x.sle y = decide (x.toNat ≤ y.toNat) := by
  rw [BitVec.sle_eq_decide, toInt_of_lt hx, toInt_of_lt hy]
  exact decide_eq_decide.mpr Int.ofNat_le

theorem toNat_ofNat_63 {n : Nat} (h : n < 2 ^ 63) : (BitVec.ofNat 64 n).toNat = n :=
  toNat_ofNat_lt (Nat.lt_trans h (by decide))

theorem toInt_ofNat_63 (n : Nat) (h : n < 2 ^ 63) : (BitVec.ofNat 64 n).toInt = n := by
  rw [toInt_of_lt (by rw [toNat_ofNat_63 h]; exact h), toNat_ofNat_63 h]

theorem toInt_sub_small (x y : BitVec 64) (hx : x.toNat < 2 ^ 62) (hy : y.toNat < 2 ^ 62) :
    (x - y).toInt = (x.toNat : Int) - y.toNat := by
  rw [BitVec.toInt_sub, toInt_of_lt (Nat.lt_trans hx (by decide)), toInt_of_lt (Nat.lt_trans hy (by decide))]
  exact Int.bmod_eq_of_le_mul_two (by omega) (by omega)

theorem slt_ofNat (n k : Nat) (hn : n < 2 ^ 63) (hk : k < 2 ^ 63) :
    (BitVec.ofNat 64 n).slt (BitVec.ofNat 64 k) = decide (n < k) := by
  have hn' := toNat_ofNat_63 hn
  have hk' := toNat_ofNat_63 hk
  rw [slt_eq_of_lt (by rw [hn']; exact hn) (by rw [hk']; exact hk), hn', hk']

theorem sle_ofNat (n k : Nat) (hn : n < 2 ^ 63) (hk : k < 2 ^ 63) :
    (BitVec.ofNat 64 n).sle (BitVec.ofNat 64 k) = decide (n ≤ k) := by
  have hn' := toNat_ofNat_63 hn
  have hk' := toNat_ofNat_63 hk
  rw [sle_eq_of_lt (by rw [hn']; exact hn) (by rw [hk']; exact hk), hn', hk']

theorem ult_ofNat (n k : Nat) (hn : n < 2 ^ 64) (hk : k < 2 ^ 64) :
    (BitVec.ofNat 64 n).ult (BitVec.ofNat 64 k) = decide (n < k) := by
  rw [BitVec.ult_eq_decide, toNat_ofNat_lt hn, toNat_ofNat_lt hk]

theorem beq_eq_decide_toNat {w : Nat} (x y : BitVec w) : (x == y) = decide (x.toNat = y.toNat) := by
  rw [Bool.beq_eq_decide_eq, decide_eq_decide, BitVec.toNat_inj]

theorem bne_eq_decide_toNat {w : Nat} (x y : BitVec w) : (x != y) = decide (x.toNat ≠ y.toNat) := by
  rw [bne, beq_eq_decide_toNat, decide_not]

theorem beq_zero_eq_decide (n : BitVec 64) : (n == 0#64) = decide (n.toNat = 0) :=
  beq_eq_decide_toNat n 0#64

/-- `if err != nil { A }; if n == 0 { B }; C` after a call that reported no error and read `n > 0` bytes -/
theorem ite_nil_pos {γ : Type} {A B C : γ} {n : BitVec 64} (hpos : 0 < n.toNat) :
    (if Go.Err.nil != Go.Err.nil then A else if n == 0#64 then B else C) = C := by
  rw [if_neg (by decide), beq_zero_eq_decide, if_neg (mt of_decide_eq_true (Nat.ne_of_gt hpos))]

theorem ofNat_or_shiftLeft (w x y i : Nat) (hx : x < 2 ^ i) :
    BitVec.ofNat w x ||| BitVec.ofNat w y <<< i = BitVec.ofNat w (x + 2 ^ i * y) := by
  have hs : BitVec.ofNat w y <<< i = BitVec.ofNat w (y <<< i) := by
    apply BitVec.eq_of_toNat_eq
    simp only [BitVec.toNat_shiftLeft, BitVec.toNat_ofNat, Nat.shiftLeft_eq, Nat.mod_mul_mod]
  rw [hs, ← BitVec.ofNat_or, Nat.or_comm, ← Nat.shiftLeft_add_eq_or_of_lt hx, Nat.shiftLeft_eq, Nat.add_comm, Nat.mul_comm]

theorem setWidth_u8 (w : Nat) (b : UInt8) : BitVec.setWidth w b.toBitVec = BitVec.ofNat w b.toNat := by
  apply BitVec.eq_of_toNat_eq
  simp only [BitVec.toNat_setWidth, UInt8.toNat_toBitVec, BitVec.toNat_ofNat]

end Csproto.Bridge.WireFuncs
