import Csproto.Bridge.DecoderFuncs
/-
  The translated `(*Decoder).Seek` refines `Dec.step (.seek offset whence)`: the three `whence` values, Go's WRAPPING 64-bit
  addition of `offset` to the cursor / to the length, rejection of a position outside `[0, len]` (cursor unchanged, the old
  cursor returned), acceptance otherwise (cursor = position).
-/
namespace Csproto.Bridge.SeekFuncs
open Csproto Csproto.Generated.WireFuncs Csproto.Bridge Csproto.Bridge.WireFuncs Csproto.Bridge.DecoderFuncs

theorem toI64_toU64 (i : Int) : toI64 (toU64 i) = i.bmod (2 ^ 64) := by
  rw [toI64_eq_bmod, toU64, two64_eq, Int.toNat_of_nonneg (Int.emod_nonneg _ (by omega)), Int.emod_bmod]

/-- the model's wrap-around `toI64 (toU64 i)` is the signed reading of the 64-bit sum -/
theorem wrap_add (a b : BitVec 64) : toI64 (toU64 (a.toInt + b.toInt)) = (a + b).toInt := by
  rw [BitVec.toInt_add, toI64_toU64]

theorem wrap_id (a : BitVec 64) : toI64 (toU64 a.toInt) = a.toInt := by
  rw [toI64_toU64, BitVec.toInt_eq_toNat_bmod, Int.bmod_bmod]

/-- the end of `Seek` for a computed position: bounds test, cursor update, result -/
def seekTail (p : Bytes) (off mode ks ke offset whence pos : BitVec 64) : Go.Out Decoder_Seek.St Decoder_Seek.R :=
  Go.seq (Go.seq (fun s : Decoder_Seek.St => if ((BitVec.slt s.pos 0#64) || (BitVec.slt (BitVec.ofNat 64 s.d_p.length) s.pos)) then (fun s => Go.Out.ret (s.d_offset, (Go.Err.other "errorf")) s) s else Go.skip s)
    (Go.seq (fun s => Go.Out.next { s with d_offset := s.pos })
    (fun s => Go.Out.ret (s.d_offset, Go.Err.nil) s))) Go.missingReturn
    { d_p := p, d_offset := off, d_mode := mode, d_keyStart := ks, d_keyEnd := ke, offset := offset, whence := whence, pos := pos }

/-- `Dec.seek` once the position is known -/
def seekAt (d : Dec) (q : Int) : Dec × DecOut :=
  if q < 0 ∨ q > d.len then (d, .err) else ({ d with off := q.toNat }, .ok (.int q))

/-- the bounds test `pos < 0 || pos > len(d.p)` -/
theorem bounds_test (p : Bytes) (pos : BitVec 64) (hp : p.length < 2 ^ 63) :
    (BitVec.slt pos 0#64 || BitVec.slt (BitVec.ofNat 64 p.length) pos) = decide (pos.toInt < 0 ∨ pos.toInt > p.length) := by
  rw [Bool.decide_or, BitVec.slt, BitVec.slt, toInt_ofNat_63 p.length hp]; rfl

theorem seekTail_seekAt (p : Bytes) (off mode ks ke offset whence pos : BitVec 64) (fast : Bool) (hp : p.length < 2 ^ 63) :
    ∃ r e s, seekTail p off mode ks ke offset whence pos = .ret (r, e) s ∧
      s.d_p = p ∧ s.d_mode = mode ∧ s.d_keyStart = ks ∧ s.d_keyEnd = ke ∧
      ((∃ d', seekAt (decOf p off ks ke fast) pos.toInt = (d', .ok (.int pos.toInt)) ∧ e = .nil ∧ r.toInt = pos.toInt ∧ s.d_offset.toNat = d'.off) ∨
       (seekAt (decOf p off ks ke fast) pos.toInt = (decOf p off ks ke fast, .err) ∧ e ≠ .nil ∧ s.d_offset = off ∧ r = off)) := by
  simp only [seekTail, Go.seq, Go.skip, bounds_test p pos hp]
  by_cases hbad : pos.toInt < 0 ∨ pos.toInt > p.length
  · simp only [decide_eq_true hbad, if_true]
    exact ⟨_, _, _, rfl, rfl, rfl, rfl, rfl, Or.inr ⟨if_pos hbad, nofun, rfl, rfl⟩⟩
  · simp only [decide_eq_false hbad, Bool.false_eq_true, if_false]
    refine ⟨_, _, _, rfl, rfl, rfl, rfl, rfl, Or.inl ⟨_, if_neg hbad, rfl, rfl, ?_⟩⟩
    have hnn : 0 ≤ pos.toInt := Int.not_lt.mp fun h => hbad (Or.inl h)
    show pos.toNat = pos.toInt.toNat
    rw [BitVec.toInt_eq_toNat_of_lt (BitVec.toInt_pos_iff.mp hnn), Int.toNat_natCast]

/-- **`(*Decoder).Seek` of the source refines `Dec.step (.seek offset whence)`** -/
theorem Seek_refines (fuel : Nat) (p : Bytes) (off mode ks ke offset whence : BitVec 64) (fast : Bool)
    (hp : p.length < 2 ^ 63) (hoff : off.toNat ≤ p.length) :
    ∃ r e s, Decoder_Seek fuel p off mode ks ke offset whence = .ret (r, e) s ∧
      s.d_p = p ∧ s.d_mode = mode ∧ s.d_keyStart = ks ∧ s.d_keyEnd = ke ∧
      (match ((decOf p off ks ke fast).step (.seek offset.toInt whence.toInt)) with
       | (d', .ok (.int q), _) => e = .nil ∧ r.toInt = q ∧ s.d_offset.toNat = d'.off
       | (_, .err, _) => e ≠ .nil ∧ s.d_offset = off ∧ r = off
       | _ => False) := by
  by_cases w : whence = 0#64 ∨ whence = 1#64 ∨ whence = 2#64
  · -- a valid `whence`: source and model reach the same position `pos`
    obtain ⟨pos, hgen, hmod⟩ : ∃ pos : BitVec 64, Decoder_Seek fuel p off mode ks ke offset whence = seekTail p off mode ks ke offset whence pos ∧
        (decOf p off ks ke fast).seek offset.toInt whence.toInt = seekAt (decOf p off ks ke fast) pos.toInt := by
      -- the closed facts by which the `whence` tests of the source (`==` on `BitVec 64`) and of the model (`=` on `Int`) reduce
      have i0 : (0#64 : BitVec 64).toInt = 0 := by decide
      have i1 : (1#64 : BitVec 64).toInt = 1 := by decide
      have i2 : (2#64 : BitVec 64).toInt = 2 := by decide
      have b10 : ((1#64 : BitVec 64) == 0#64) = false := by decide
      have b20 : ((2#64 : BitVec 64) == 0#64) = false := by decide
      have b21 : ((2#64 : BitVec 64) == 1#64) = false := by decide
      have n10 : ¬ (1 : Int) = 0 := by decide
      have n20 : ¬ (2 : Int) = 0 := by decide
      have n21 : ¬ (2 : Int) = 1 := by decide
      rcases w with rfl | rfl | rfl
      · exact ⟨offset,
          by simp only [Decoder_Seek, Decoder_Seek.body, seekTail, Go.seq, Go.skip, beq_self_eq_true, if_true],
          by simp only [Dec.seek, i0, if_true, wrap_id, seekAt]⟩
      · exact ⟨offset + off,
          by simp only [Decoder_Seek, Decoder_Seek.body, seekTail, Go.seq, b10, Bool.false_eq_true, if_false, beq_self_eq_true, if_true],
          by simp only [Dec.seek, i1, n10, if_false, if_true, wrap_id, decOf, (toInt_of_lt (Nat.lt_of_le_of_lt hoff hp)).symm,
            wrap_add, seekAt]⟩
      · exact ⟨offset + BitVec.ofNat 64 p.length,
          by simp only [Decoder_Seek, Decoder_Seek.body, seekTail, Go.seq, b20, b21, Bool.false_eq_true, if_false, beq_self_eq_true, if_true],
          by simp only [Dec.seek, i2, n20, n21, if_false, if_true, wrap_id, decOf, Dec.len, (toInt_ofNat_63 p.length hp).symm,
            wrap_add, seekAt]⟩
    obtain ⟨r, e, s, h, h1, h2, h3, h4, hres⟩ := seekTail_seekAt p off mode ks ke offset whence pos fast hp
    refine ⟨r, e, s, hgen.trans h, h1, h2, h3, h4, ?_⟩
    rw [show (decOf p off ks ke fast).step (.seek offset.toInt whence.toInt) = withAlloc (seekAt (decOf p off ks ke fast) pos.toInt) 0
      from congrArg (withAlloc · 0) hmod]
    rcases hres with ⟨d', hs, hr⟩ | ⟨hs, hr⟩
    · rw [hs]; exact hr
    · rw [hs]; exact hr
  · have w0 : whence ≠ 0#64 := fun h => w (Or.inl h)
    have w1 : whence ≠ 1#64 := fun h => w (Or.inr (Or.inl h))
    have w2 : whence ≠ 2#64 := fun h => w (Or.inr (Or.inr h))
    generalize hX : Decoder_Seek fuel p off mode ks ke offset whence = X
    simp only [Decoder_Seek, Decoder_Seek.body, Go.seq, beq_eq_false_iff_ne.mpr w0, beq_eq_false_iff_ne.mpr w1,
      beq_eq_false_iff_ne.mpr w2, Bool.false_eq_true, if_false] at hX
    refine ⟨_, _, _, hX.symm, rfl, rfl, rfl, rfl, ?_⟩
    rw [show (decOf p off ks ke fast).step (.seek offset.toInt whence.toInt) = (decOf p off ks ke fast, .err, 0) by
      show withAlloc (Dec.seek _ _ _) 0 = _
      simp only [withAlloc, Dec.seek, if_false, show whence.toInt ≠ 0 from fun h => w0 (BitVec.toInt_inj.mp h),
        show whence.toInt ≠ 1 from fun h => w1 (BitVec.toInt_inj.mp h), show whence.toInt ≠ 2 from fun h => w2 (BitVec.toInt_inj.mp h)]]
    exact ⟨nofun, rfl, rfl⟩

end Csproto.Bridge.SeekFuncs
