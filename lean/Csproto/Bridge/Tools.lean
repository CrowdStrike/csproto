import Csproto.Generated.Tools
/-
  Bridge for the tables of `Generated/Tools.lean` (C20): the shape of cmd/protodump and prototest.ParseAnnotatedHex that the tool models
  (Model/Dump, Model/Hex) assume.

  * `pathsMatch` is a function of the configured paths and the path asked about, and `dumpLoop` carries
    nothing from one field to the next except the decoder: in the source the only field of `tagPaths`
    is `paths`, it is written by `Set` (flag parsing) only, no other struct field is written while
    dumping except the indentation, no address of a field is handed out, and the package has no
    variables besides the build information.
  * `dumpProto data …` decodes the bytes it is given: in `dumpProtoFile` the value passed to
    `csproto.NewDecoder` is assigned exactly once, from `io.ReadAll`.
  * `parseAnnotatedHex` mirrors strings.Split / strings.Index / strings.Map + unicode.IsSpace /
    hex.DecodeString; these (and fmt.Errorf for the error text) are all the calls the function makes.
-/
namespace Csproto.Bridge

/-- the fields of the per-run configuration copy `dumpConfig` -/
def configFields : List String := ["dumpConfig.indent", "dumpConfig.expand", "dumpConfig.strings"]

/-- **path matching keeps no state**: every write to a struct field either goes to the configuration copy
    or is `Set` (flag parsing) storing the configured paths - nothing else of `tagPaths` is ever written,
    in particular not by `Matches` / `ShouldExpand` -/
theorem tagPaths_written_only_by_Set :
    Generated.protodumpFieldWrites.all (fun w => configFields.contains w.1 || w == ("tagPaths.paths", "Set")) = true := by
  decide +kernel

/-- the dump loop changes nothing but the indentation of its own configuration copy; the rest of the
    configuration is fixed when `dumpProtoFile` builds it -/
theorem dump_writes_classified :
    Generated.protodumpFieldWrites.all (fun w =>
      w == ("tagPaths.paths", "Set") || w == ("dumpConfig.indent", "dumpProto") ||
      w.2 == "dumpProtoFile(literal)") = true := by
  decide +kernel

theorem protodump_structs_ok :
    Generated.protodumpStructFields = ["dumpConfig: indent expand strings", "tagPaths: paths"] := rfl

theorem protodump_no_global_state :
    Generated.protodumpGlobals.all (fun g => ["builtBy", "commit", "date", "version"].contains g) = true := by decide +kernel

/-- **the input is decoded as it was read** -/
theorem dump_input_verbatim : Generated.dumpInputFlow = ["io.ReadAll"] := rfl

/-- `ParseAnnotatedHex` is made of the library calls the model mirrors -/
theorem hex_calls_ok :
    Generated.hexCalls = ["fmt.Errorf", "hex.DecodeString", "strings.Index", "strings.Map", "strings.Split", "unicode.IsSpace"] :=
  rfl

end Csproto.Bridge
