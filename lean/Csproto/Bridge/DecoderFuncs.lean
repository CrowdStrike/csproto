import Csproto.Bridge.WireFuncs2
import Csproto.Model.Dec
import Csproto.Proofs.Total
/-
  The translated `Decoder` methods of decoder.go (`Generated/WireFuncs.lean`) REFINE the transition system `Dec.step` of
  `Model/Dec.lean`, which is what the properties of the decoder are proved about: for every buffer a Go slice can hold and every
  cursor inside it, method and model agree on acceptance, the value, the new cursor and the recorded key span — and the method
  never panics, never diverges, and changes no other field.

  The receiver's fields (`d.p`, `d.offset`, `d.mode`, `d.keyStart`, `d.keyEnd`) are state variables `d_p`, `d_offset`, …;
  `DecodeVarint(d.p[d.offset:])` is a call of the translated `DecodeVarint` on `d_p.drop d_offset` guarded by Go's slice-bounds
  check; `fmt.Errorf("… %w", err)` keeps the class of `err`.  The translator gives every method a state type of its own; it is
  looked at through a `view` into `Recv`.
-/
namespace Csproto.Bridge.DecoderFuncs
open Csproto Csproto.Generated.WireFuncs Csproto.Bridge Csproto.Bridge.WireFuncs

/-- the model state a receiver denotes -/
def decOf (p : Bytes) (off ks ke : BitVec 64) (fast : Bool) : Dec :=
  { p := p, off := off.toNat, fast := fast, ks := ks.toNat, ke := ke.toNat }

/-- `d.offset >= len(d.p)` as the translator renders it -/
theorem eof_test (p : Bytes) (off : BitVec 64) (hp : p.length < 2 ^ 63) (hoff : off.toNat ≤ p.length) :
    BitVec.sle (BitVec.ofNat 64 p.length) off = decide (p.length ≤ off.toNat) := by
  rw [sle_eq_of_lt ((toNat_ofNat_63 hp).symm ▸ hp) (Nat.lt_of_le_of_lt hoff hp), toNat_ofNat_63 hp]

theorem slt_len (p : Bytes) (x : BitVec 64) (hp : p.length < 2 ^ 63) (hx : x.toNat < 2 ^ 63) :
    BitVec.slt (BitVec.ofNat 64 p.length) x = decide (p.length < x.toNat) := by
  rw [slt_eq_of_lt ((toNat_ofNat_63 hp).symm ▸ hp) hx, toNat_ofNat_63 hp]

theorem off_add_toNat {len : Nat} {off n : BitVec 64} (hlen : len < 2 ^ 63) (hoff : off.toNat ≤ len) (hn : n.toNat ≤ len - off.toNat) :
    (off + n).toNat = off.toNat + n.toNat :=
  BitVec.toNat_add_of_lt (Nat.lt_of_le_of_lt (Nat.add_le_of_le_sub' hoff hn) (Nat.lt_trans hlen (by decide)))

theorem drop_len (p : Bytes) (k : Nat) (hp : p.length < 2 ^ 63) : (p.drop k).length < 2 ^ 63 :=
  Nat.lt_of_le_of_lt (List.length_drop ▸ Nat.sub_le _ _) hp

/-- Go's `int64(v)` in the model (`toI64`) is the balanced remainder modulo 2^64, which is what `BitVec.toInt` is -/
theorem toI64_eq_bmod (n : Nat) : toI64 n = (n : Int).bmod (2 ^ 64) := by
  simp only [toI64, Int.bmod_def, two64, two63]
  omega

theorem toI64_toNat (v : BitVec 64) : toI64 v.toNat = v.toInt :=
  (toI64_eq_bmod _).trans (BitVec.toInt_eq_toNat_bmod v).symm

theorem ult_max32 (v : BitVec 64) : BitVec.ult 4294967295#64 v = decide (4294967295 < v.toNat) := rfl

theorem ult_maxLen (l : BitVec 64) : BitVec.ult 2147483647#64 l = decide (maxFieldLen < l.toNat) := rfl

theorem slt_max32 (v : BitVec 64) : BitVec.slt 2147483647#64 v = decide (2147483647 < v.toInt) := rfl

theorem slt_min32 (v : BitVec 64) : BitVec.slt v (BitVec.ofInt 64 (-2147483648)) = decide (v.toInt < -2147483648) := rfl

/-- `int32(v)` of an `int64` inside the int32 range keeps the value: truncation is the balanced remainder modulo 2^32 of the
    balanced remainder modulo 2^64 -/
theorem setWidth32_toInt (v : BitVec 64) (h1 : ¬ 2147483647 < v.toInt) (h2 : ¬ v.toInt < -2147483648) :
    (BitVec.setWidth 32 v).toInt = v.toInt := by
  rw [BitVec.toInt_setWidth, ← Int.bmod_bmod_of_dvd (m := 2 ^ 64) ⟨2 ^ 32, rfl⟩, ← BitVec.toInt_eq_toNat_bmod]
  exact Int.bmod_eq_of_le_mul_two (by omega) (by omega)

theorem bne_zero (v : BitVec 64) : (v != 0#64) = (v.toNat != 0) :=
  Bool.eq_iff_iff.mpr (by rw [bne_iff_ne, bne_iff_ne]; exact not_congr BitVec.toNat_inj.symm)

theorem nz_of_pos {α} {r : Res (α × Nat)} {x : α} {n : Nat} (h : r = .ok (x, n)) (hn : 0 < n) : nz r = .ok (x, n) := by
  subst h; simp only [nz, Nat.ne_of_gt hn, if_false]

theorem nz_err {α} {r : Res (α × Nat)} (h : r = .err) : nz r = .err := by subst h; rfl

section Elem
variable {τ α β ε : Type}

/-- What a method has in hand after `v, n, err := f(d.p[d.offset:])` — `(n, e)`, the value `w` it would return or append and
    the outcome `rej` of its range test on it — against the model's element reader `el` on the same bytes `q` -/
inductive Elem (el : Bytes → Res (α × Nat)) (conv : ε → α) (q : Bytes) (w : ε) (n : BitVec 64) : Go.Err → Bool → Prop
  | ok (hpos : 0 < n.toNat) (hle : n.toNat ≤ q.length) (hq : el q = .ok (conv w, n.toNat)) : Elem el conv q w n .nil false
  | range (hpos : 0 < n.toNat) (hq : el q = .err) : Elem el conv q w n .nil true
  | err {e rej} (he : e ≠ .nil) (hq : el q = .err) : Elem el conv q w n e rej

variable {el : Bytes → Res (α × Nat)} {conv : ε → α} {q : Bytes} {w : ε} {n : BitVec 64} {e : Go.Err} {rej : Bool}

/-- the call `f(d.p[k:])` of a free function that reads what `dec` reads, under the `n == 0` guard -/
theorem Elem.of_reads {dec : Bytes → Res (α × Nat)} {f : Bytes → Go.Out τ (ε × BitVec 64 × Go.Err)}
    (h : ∀ q, q.length < 2 ^ 63 → Reads (f q) (dec q) conv q.length) (p : Bytes) (k : Nat) (hp : p.length < 2 ^ 63) :
    ∃ v n e c, f (p.drop k) = .ret (v, n, e) c ∧ Elem (fun q => nz (dec q)) conv (p.drop k) v n e false := by
  obtain ⟨v, n, e, c, ho, hc⟩ := h _ (drop_len p k hp)
  refine ⟨v, n, e, c, ho, ?_⟩
  rcases hc with ⟨rfl, hm, hpos, hle⟩ | ⟨he, hm⟩
  · exact .ok hpos hle (nz_of_pos hm hpos)
  · exact .err he (nz_err hm)

theorem Elem.map {ε' : Type} (f : α → β) {conv' : ε' → β} {w' : ε'} (h : Elem el conv q w n e false) (hf : f (conv w) = conv' w') :
    Elem (fun q => (el q).map fun (v, n) => (f v, n)) conv' q w' n e false := by
  cases h with
  | ok hpos hle hq => exact .ok hpos hle (by simp only [hq, Res.map, hf])
  | err he hq => exact .err he (by simp only [hq, Res.map])

/-- the statements behind the call — `if err != nil { A }; if n == 0 { B }; if rej { C }; D` — go the way `Elem` says -/
theorem Elem.ite {γ : Type} {P : γ → Prop} {A B C D : γ} (h : Elem el conv q w n e rej)
    (herr : e ≠ .nil → el q = .err → P A) (hrej : el q = .err → P C)
    (hok : el q = .ok (conv w, n.toNat) → 0 < n.toNat → n.toNat ≤ q.length → P D) :
    P (if e != .nil then A else if n == 0#64 then B else if rej then C else D) := by
  cases h with
  | ok hpos hle hq =>
    rw [ite_nil_pos hpos, if_neg (by decide)]
    exact hok hq hpos hle
  | range hpos hq =>
    rw [ite_nil_pos hpos, if_pos rfl]
    exact hrej hq
  | err he hq =>
    rw [if_pos (bne_iff_ne.mpr he)]
    exact herr he hq

end Elem

/-- the call `DecodeVarint(d.p[k:])` as an element reader -/
theorem elem_varint (fuel : Nat) (hf : 11 ≤ fuel) (p : Bytes) (k : Nat) (hp : p.length < 2 ^ 63) :
    ∃ v n e c, DecodeVarint fuel (p.drop k) = .ret (v, n, e) c ∧ Elem elVarint BitVec.toNat (p.drop k) v n e false :=
  Elem.of_reads (reads_varint fuel hf) p k hp

section
variable {q : Bytes} {v n : BitVec 64} {e : Go.Err} (h : Elem elVarint BitVec.toNat q v n e false)
include h

theorem Elem.int64 : Elem elInt64 BitVec.toInt q v n e false := h.map toI64 (toI64_toNat v)

theorem Elem.bool : Elem elBool id q (v != 0#64) n e false := h.map (· != 0) (bne_zero v).symm

/-- `DecodeUInt32`'s range test; an accepted value is unchanged by the truncation to 32 bits -/
theorem Elem.uint32 : Elem elUint32 BitVec.toNat q (BitVec.setWidth 32 v) n e (BitVec.ult 4294967295#64 v) := by
  cases h with
  | ok hpos hle hq =>
    rw [ult_max32]
    by_cases hbig : 4294967295 < v.toNat
    · rw [decide_eq_true hbig]
      exact .range hpos (by simp only [elUint32, hq, gt_iff_lt, if_pos hbig])
    · rw [decide_eq_false hbig]
      refine .ok hpos hle ?_
      simp only [elUint32, hq, gt_iff_lt, if_neg hbig, BitVec.toNat_setWidth]
      rw [Nat.mod_eq_of_lt (by omega)]
  | err he hq => exact .err he (by simp only [elUint32, hq])

/-- `DecodeInt32`'s range test on `int64(v)`; an accepted value is unchanged by the truncation to 32 bits -/
theorem Elem.int32 : Elem elInt32 BitVec.toInt q (BitVec.setWidth 32 v) n e
    (BitVec.slt 2147483647#64 v || BitVec.slt v (BitVec.ofInt 64 (-2147483648))) := by
  cases h with
  | ok hpos hle hq =>
    rw [slt_max32, slt_min32, ← Bool.decide_or]
    by_cases hbig : 2147483647 < v.toInt ∨ v.toInt < -2147483648
    · rw [decide_eq_true hbig]
      exact .range hpos (by simp only [elInt32, hq, toI64_toNat, gt_iff_lt, if_pos hbig])
    · rw [decide_eq_false hbig]
      refine .ok hpos hle ?_
      simp only [elInt32, hq, toI64_toNat, gt_iff_lt, if_neg hbig]
      rw [setWidth32_toInt v (fun h => hbig (.inl h)) (fun h => hbig (.inr h))]
  | err he hq => exact .err he (by simp only [elInt32, hq])

end

/-- the receiver fields no reader writes -/
structure Frame where
  p : Bytes
  mode : BitVec 64
  ks : BitVec 64
  ke : BitVec 64

/-- the receiver `d *Decoder` as a method's state holds it; a state of the type the translator generated for a method is
    looked at through a `view` into this -/
structure Recv where
  frame : Frame
  off : BitVec 64

abbrev Recv.dec (d : Recv) (fast : Bool) : Dec := decOf d.frame.p d.off d.frame.ks d.frame.ke fast

/-- `d.p[d.offset:]` -/
abbrev Recv.rest (d : Recv) : Bytes := d.frame.p.drop d.off.toNat

theorem sliceFrom_cursor (d : Dec) (h : ¬ d.len ≤ d.off) : sliceFrom d.p d.off = .ok (d.p.drop d.off) :=
  if_pos (Nat.le_of_lt (Nat.lt_of_not_le h))

theorem scalar_eof {α} (d : Dec) (elem : Bytes → Res (α × Nat)) (mk : α → Item) (h : d.len ≤ d.off) :
    d.scalar elem mk = (d, .err) := by
  simp only [Dec.scalar, ge_iff_le, h, if_true]

theorem scalar_ok {α} (d : Dec) (elem : Bytes → Res (α × Nat)) (mk : α → Item) (h : ¬ d.len ≤ d.off) {x : α} {n : Nat}
    (he : elem (d.p.drop d.off) = .ok (x, n)) : d.scalar elem mk = ({ d with off := d.off + n }, .ok (mk x)) := by
  simp only [Dec.scalar, ge_iff_le, h, if_false, sliceFrom_cursor d h, he]

theorem scalar_err {α} (d : Dec) (elem : Bytes → Res (α × Nat)) (mk : α → Item) (h : ¬ d.len ≤ d.off)
    (he : elem (d.p.drop d.off) = .err) : d.scalar elem mk = (d, .err) := by
  simp only [Dec.scalar, ge_iff_le, h, if_false, sliceFrom_cursor d h, he]

section Cursor
variable {σ α ρ : Type}

/-- The shape of every method that reads at the cursor: `if d.offset >= len(d.p) { return eofRet }; call; K`, where `call`
    is the statement `… := f(d.p[d.offset:])`. -/
def atCursor (view : σ → Recv) (eofRet : ρ) (call K : σ → Go.Out σ ρ) : σ → Go.Out σ ρ :=
  Go.seq (Go.seq (fun s => if BitVec.sle (BitVec.ofNat 64 (view s).frame.p.length) (view s).off then (fun s => .ret eofRet s) s else Go.skip s)
    (Go.seq call K)) Go.missingReturn

section
variable (view : σ → Recv) (eofRet : ρ) (call K : σ → Go.Out σ ρ) (s : σ)
  (hp : (view s).frame.p.length < 2 ^ 63) (hoff : (view s).off.toNat ≤ (view s).frame.p.length)
include hp hoff

theorem atCursor_eof (h : (view s).frame.p.length ≤ (view s).off.toNat) : atCursor view eofRet call K s = .ret eofRet s := by
  simp only [atCursor, Go.seq, eof_test _ _ hp hoff, h, decide_true, if_true]

theorem atCursor_more (h : ¬ (view s).frame.p.length ≤ (view s).off.toNat) :
    atCursor view eofRet call K s = Go.seq (Go.seq call K) Go.missingReturn s := by
  simp only [atCursor, Go.seq, eof_test _ _ hp hoff, h, decide_false, Bool.false_eq_true, if_false, Go.skip]

theorem atCursor_next (h : ¬ (view s).frame.p.length ≤ (view s).off.toNat) {s' : σ} (hc : call s = .next s') :
    atCursor view eofRet call K s = Go.seq K Go.missingReturn s' := by
  simp only [atCursor_more view eofRet call K s hp hoff h, Go.seq, hc]

end

/-- A returned `out` of a method that reads one value at the cursor, against `Dec.step op` from the state the receiver `d`
    denotes: the method keeps the frame; either both accept, the value (read through `val`) is the model's and the cursors
    agree, or both fail, the model's state is unchanged and the cursor has not moved.  Neither allocates. -/
def Agrees (view : σ → Recv) (val : ρ → α) (mk : α → Item) (d : Recv) (fast : Bool) (op : DecOp) (out : Go.Out σ (ρ × Go.Err)) :
    Prop :=
  ∃ r e s, out = .ret (r, e) s ∧ (view s).frame = d.frame ∧
    ((∃ d', (d.dec fast).step op = (d', .ok (mk (val r)), 0) ∧ e = .nil ∧ (view s).off.toNat = d'.off) ∨
     ((d.dec fast).step op = (d.dec fast, .err, 0) ∧ e ≠ .nil ∧ (view s).off = d.off))

variable {view : σ → Recv} {val : ρ → α} {mk : α → Item} {d : Recv} {fast : Bool} {op : DecOp} {out : Go.Out σ (ρ × Go.Err)}

theorem Agrees.err {r : ρ} {e : Go.Err} {s : σ} (hs : (d.dec fast).step op = (d.dec fast, .err, 0)) (he : e ≠ .nil)
    (hv : view s = d) : Agrees view val mk d fast op (.ret (r, e) s) :=
  ⟨r, e, s, rfl, congrArg Recv.frame hv, .inr ⟨hs, he, congrArg Recv.off hv⟩⟩

theorem Agrees.ok {r : ρ} {s : σ} {d' : Dec} (hs : (d.dec fast).step op = (d', .ok (mk (val r)), 0))
    (hfr : (view s).frame = d.frame) (ho : (view s).off.toNat = d'.off) : Agrees view val mk d fast op (.ret (r, .nil) s) :=
  ⟨r, .nil, s, rfl, hfr, .inl ⟨d', hs, rfl, ho⟩⟩

/-- **A scalar reader refines `Dec.scalar`**: a method that is the end-of-input test; the call, `(n, e)`; its two error
    returns; the range test `rej`; `d.offset += n; return r, nil` — with `s`, `s1`, `s1'`, `s2` the states at the returns
    (`s1'` is given only by a method that has a range test) -/
theorem Agrees.of_chain {el : Bytes → Res (α × Nat)} {s s1 s2 : σ} {r zero : ρ} {n : BitVec 64} {e eN : Go.Err} {rej : Bool}
    (hp : d.frame.p.length < 2 ^ 63) (hle : d.off.toNat ≤ d.frame.p.length) (hel : Elem el val d.rest r n e rej)
    (hop : ∀ x : Dec, x.step op = withAlloc (x.scalar el mk) 0) (s1' : σ := s1)
    (ho : out = if BitVec.sle (BitVec.ofNat 64 d.frame.p.length) d.off then .ret (zero, .unexpectedEOF) s
      else if e != .nil then .ret (zero, e) s1 else if n == 0#64 then .ret (zero, eN) s1
      else if rej then .ret (zero, .overflow) s1' else .ret (r, .nil) s2)
    (h0 : view s = d) (h1 : view s1 = d) (h1' : view s1' = d) (h2 : view s2 = { d with off := d.off + n }) :
    Agrees view val mk d fast op out := by
  subst ho
  have hstep : ∀ {x}, (d.dec fast).scalar el mk = x → (d.dec fast).step op = (x.1, x.2, 0) :=
    fun h => (hop _).trans (congrArg (withAlloc · 0) h)
  rw [eof_test _ _ hp hle]
  by_cases heof : d.frame.p.length ≤ d.off.toNat
  · rw [if_pos (decide_eq_true heof)]
    exact .err (hstep (scalar_eof (d.dec fast) _ _ heof)) nofun h0
  · rw [if_neg (mt of_decide_eq_true heof)]
    refine hel.ite (P := Agrees view val mk d fast op) (fun he hq => ?_) (fun hq => ?_) (fun hq hpos hlen => ?_)
    · exact .err (hstep (scalar_err (d.dec fast) _ _ heof hq)) he h1
    · exact .err (hstep (scalar_err (d.dec fast) _ _ heof hq)) nofun h1'
    · rw [List.length_drop] at hlen
      refine .ok (hstep (scalar_ok (d.dec fast) _ _ heof hq)) (by rw [h2]) ?_
      rw [h2]
      exact off_add_toNat hp hle hlen

/-- `Agrees` in the form the refinement theorems are stated in. `C r e s` is their last conjunct, a `match` on the model's
    step `(d.dec fast).step op` with an arm for `(d', .ok (mk x), _)`, an arm for `(_, .err, _)` and `False` otherwise. That
    `match` is on a constructor of `Item` (a pattern cannot be the variable `mk`), so here `C` is a variable and `hC`, which
    ties it to the two cases of `Agrees`, is proved at each call `(X_sim …).elim` by the default: in either case the model's
    step inside `C` is rewritten by the case's equation `hs`, the `match` reduces to the arm for that step, and the arm's
    conjuncts are those of the case (`val r = x` by `rfl`, since `hs` has `mk (val r)` for the item). -/
theorem Agrees.elim {C : ρ → Go.Err → σ → Prop} (h : Agrees view val mk d fast op out)
    (hC : ∀ r e s,
      ((∃ d', (d.dec fast).step op = (d', .ok (mk (val r)), 0) ∧ e = .nil ∧ (view s).off.toNat = d'.off) ∨
       ((d.dec fast).step op = (d.dec fast, .err, 0) ∧ e ≠ .nil ∧ (view s).off = d.off)) → C r e s := by
      rintro r e s (⟨d', hs, he, ho⟩ | ⟨hs, he, ho⟩)
      · rw [hs]
        exact ⟨he, rfl, ho⟩
      · rw [hs]
        exact ⟨he, ho⟩) :
    ∃ r e s, out = .ret (r, e) s ∧ (view s).frame.p = d.frame.p ∧ (view s).frame.mode = d.frame.mode ∧
      (view s).frame.ks = d.frame.ks ∧ (view s).frame.ke = d.frame.ke ∧ C r e s := by
  obtain ⟨r, e, s, ho, hf, hm⟩ := h
  exact ⟨r, e, s, ho, congrArg Frame.p hf, congrArg Frame.mode hf, congrArg Frame.ks hf, congrArg Frame.ke hf, hC r e s hm⟩

theorem Agrees.off_le {m : Nat} (h : Agrees view val mk d fast op out) (hx : ((d.dec fast).step op).1.off ≤ m)
    (hoff : d.off.toNat ≤ m) : ∃ r e s, out = .ret (r, e) s ∧ (view s).off.toNat ≤ m := by
  obtain ⟨r, e, s, ho, _, hm⟩ := h
  refine ⟨r, e, s, ho, ?_⟩
  rcases hm with ⟨d', hs, _, h⟩ | ⟨_, _, h⟩
  · rw [hs] at hx; exact h ▸ hx
  · exact h ▸ hoff

end Cursor

section
variable (fuel : Nat) (p : Bytes) (off mode ks ke : BitVec 64) (fast : Bool) (hp : p.length < 2 ^ 63) (hoff : off.toNat ≤ p.length)
include hp hoff

abbrev DecodeFixed32_view (s : Decoder_DecodeFixed32.St) : Recv := ⟨⟨s.d_p, s.d_mode, s.d_keyStart, s.d_keyEnd⟩, s.d_offset⟩

theorem DecodeFixed32_sim :
    Agrees DecodeFixed32_view BitVec.toNat .nat
      ⟨⟨p, mode, ks, ke⟩, off⟩ fast .fixed32 (Decoder_DecodeFixed32 fuel p off mode ks ke) := by
  obtain ⟨v, n, e, c, hd, hel⟩ := Elem.of_reads (reads_fixed32 fuel) p off.toNat hp
  apply Agrees.of_chain hp hoff hel (fun _ => rfl)
  · simp only [Decoder_DecodeFixed32, Decoder_DecodeFixed32.body, ↓Go.seq_assoc, ↓Go.seq_guard, Go.seq, hoff, hd, if_true]; rfl
  all_goals rfl

abbrev DecodeFixed64_view (s : Decoder_DecodeFixed64.St) : Recv := ⟨⟨s.d_p, s.d_mode, s.d_keyStart, s.d_keyEnd⟩, s.d_offset⟩

theorem DecodeFixed64_sim :
    Agrees DecodeFixed64_view BitVec.toNat .nat
      ⟨⟨p, mode, ks, ke⟩, off⟩ fast .fixed64 (Decoder_DecodeFixed64 fuel p off mode ks ke) := by
  obtain ⟨v, n, e, c, hd, hel⟩ := Elem.of_reads (reads_fixed64 fuel) p off.toNat hp
  apply Agrees.of_chain hp hoff hel (fun _ => rfl)
  · simp only [Decoder_DecodeFixed64, Decoder_DecodeFixed64.body, ↓Go.seq_assoc, ↓Go.seq_guard, Go.seq, hoff, hd, if_true]; rfl
  all_goals rfl

variable (hf : 11 ≤ fuel)
include hf

abbrev DecodeUInt64_view (s : Decoder_DecodeUInt64.St) : Recv := ⟨⟨s.d_p, s.d_mode, s.d_keyStart, s.d_keyEnd⟩, s.d_offset⟩

theorem DecodeUInt64_sim :
    Agrees DecodeUInt64_view BitVec.toNat .nat
      ⟨⟨p, mode, ks, ke⟩, off⟩ fast .uint64 (Decoder_DecodeUInt64 fuel p off mode ks ke) := by
  obtain ⟨v, n, e, c, hd, hel⟩ := elem_varint fuel hf p off.toNat hp
  apply Agrees.of_chain hp hoff hel (fun _ => rfl)
  · simp only [Decoder_DecodeUInt64, Decoder_DecodeUInt64.body, ↓Go.seq_assoc, ↓Go.seq_guard, Go.seq, hoff, hd, if_true]; rfl
  all_goals rfl

abbrev DecodeInt64_view (s : Decoder_DecodeInt64.St) : Recv := ⟨⟨s.d_p, s.d_mode, s.d_keyStart, s.d_keyEnd⟩, s.d_offset⟩

theorem DecodeInt64_sim :
    Agrees DecodeInt64_view BitVec.toInt .int
      ⟨⟨p, mode, ks, ke⟩, off⟩ fast .int64 (Decoder_DecodeInt64 fuel p off mode ks ke) := by
  obtain ⟨v, n, e, c, hd, hel⟩ := elem_varint fuel hf p off.toNat hp
  apply Agrees.of_chain hp hoff hel.int64 (fun _ => rfl)
  · simp only [Decoder_DecodeInt64, Decoder_DecodeInt64.body, ↓Go.seq_assoc, ↓Go.seq_guard, Go.seq, hoff, hd, if_true]; rfl
  all_goals rfl

abbrev DecodeUInt32_view (s : Decoder_DecodeUInt32.St) : Recv := ⟨⟨s.d_p, s.d_mode, s.d_keyStart, s.d_keyEnd⟩, s.d_offset⟩

theorem DecodeUInt32_sim :
    Agrees DecodeUInt32_view BitVec.toNat .nat
      ⟨⟨p, mode, ks, ke⟩, off⟩ fast .uint32 (Decoder_DecodeUInt32 fuel p off mode ks ke) := by
  obtain ⟨v, n, e, c, hd, hel⟩ := elem_varint fuel hf p off.toNat hp
  apply Agrees.of_chain hp hoff hel.uint32 (fun _ => rfl)
  · simp only [Decoder_DecodeUInt32, Decoder_DecodeUInt32.body, ↓Go.seq_assoc, ↓Go.seq_guard, Go.seq, hoff, hd, if_true]; rfl
  all_goals rfl

abbrev DecodeInt32_view (s : Decoder_DecodeInt32.St) : Recv := ⟨⟨s.d_p, s.d_mode, s.d_keyStart, s.d_keyEnd⟩, s.d_offset⟩

theorem DecodeInt32_sim :
    Agrees DecodeInt32_view BitVec.toInt .int
      ⟨⟨p, mode, ks, ke⟩, off⟩ fast .int32 (Decoder_DecodeInt32 fuel p off mode ks ke) := by
  obtain ⟨v, n, e, c, hd, hel⟩ := elem_varint fuel hf p off.toNat hp
  apply Agrees.of_chain hp hoff hel.int32 (fun _ => rfl) (s1' := _)
  · simp only [Decoder_DecodeInt32, Decoder_DecodeInt32.body, ↓Go.seq_assoc, ↓Go.seq_guard, Go.seq, hoff, hd, if_true]; rfl
  all_goals rfl

abbrev DecodeSInt64_view (s : Decoder_DecodeSInt64.St) : Recv := ⟨⟨s.d_p, s.d_mode, s.d_keyStart, s.d_keyEnd⟩, s.d_offset⟩

theorem DecodeSInt64_sim :
    Agrees DecodeSInt64_view BitVec.toInt .int
      ⟨⟨p, mode, ks, ke⟩, off⟩ fast .sint64 (Decoder_DecodeSInt64 fuel p off mode ks ke) := by
  obtain ⟨v, n, e, c, hd, hel⟩ := Elem.of_reads (reads_zigzag64 fuel hf) p off.toNat hp
  apply Agrees.of_chain hp hoff hel (fun _ => rfl)
  · simp only [Decoder_DecodeSInt64, Decoder_DecodeSInt64.body, ↓Go.seq_assoc, ↓Go.seq_guard, Go.seq, hoff, hd, if_true]; rfl
  all_goals rfl

abbrev DecodeSInt32_view (s : Decoder_DecodeSInt32.St) : Recv := ⟨⟨s.d_p, s.d_mode, s.d_keyStart, s.d_keyEnd⟩, s.d_offset⟩

theorem DecodeSInt32_sim :
    Agrees DecodeSInt32_view BitVec.toInt .int
      ⟨⟨p, mode, ks, ke⟩, off⟩ fast .sint32 (Decoder_DecodeSInt32 fuel p off mode ks ke) := by
  obtain ⟨v, n, e, c, hd, hel⟩ := Elem.of_reads (reads_zigzag32 fuel hf) p off.toNat hp
  apply Agrees.of_chain hp hoff hel (fun _ => rfl)
  · simp only [Decoder_DecodeSInt32, Decoder_DecodeSInt32.body, ↓Go.seq_assoc, ↓Go.seq_guard, Go.seq, hoff, hd, if_true]; rfl
  all_goals rfl

abbrev DecodeBool_view (s : Decoder_DecodeBool.St) : Recv := ⟨⟨s.d_p, s.d_mode, s.d_keyStart, s.d_keyEnd⟩, s.d_offset⟩

theorem DecodeBool_sim :
    Agrees DecodeBool_view id .bool
      ⟨⟨p, mode, ks, ke⟩, off⟩ fast .bool (Decoder_DecodeBool fuel p off mode ks ke) := by
  obtain ⟨v, n, e, c, hd, hel⟩ := elem_varint fuel hf p off.toNat hp
  apply Agrees.of_chain hp hoff hel.bool (fun _ => rfl)
  · simp only [Decoder_DecodeBool, Decoder_DecodeBool.body, ↓Go.seq_assoc, ↓Go.seq_guard, Go.seq, hoff, hd, if_true]; rfl
  all_goals rfl

end

/-- **Each scalar reader `(*Decoder).DecodeX` of the source refines `Dec.step .x`**: it returns, keeps the other fields, and
    either both accept with the same value and cursor or both fail and the cursor has not moved. -/
theorem DecodeUInt64_refines (fuel : Nat) (hf : 11 ≤ fuel) (p : Bytes) (off mode ks ke : BitVec 64) (fast : Bool)
    (hp : p.length < 2 ^ 63) (hoff : off.toNat ≤ p.length) :
    ∃ v e s, Decoder_DecodeUInt64 fuel p off mode ks ke = .ret (v, e) s ∧
      s.d_p = p ∧ s.d_mode = mode ∧ s.d_keyStart = ks ∧ s.d_keyEnd = ke ∧
      (match ((decOf p off ks ke fast).step .uint64) with
       | (d', .ok (.nat x), _) => e = .nil ∧ v.toNat = x ∧ s.d_offset.toNat = d'.off
       | (_, .err, _) => e ≠ .nil ∧ s.d_offset = off
       | _ => False) :=
  (DecodeUInt64_sim fuel p off mode ks ke fast hp hoff hf).elim

theorem DecodeInt64_refines (fuel : Nat) (hf : 11 ≤ fuel) (p : Bytes) (off mode ks ke : BitVec 64) (fast : Bool)
    (hp : p.length < 2 ^ 63) (hoff : off.toNat ≤ p.length) :
    ∃ v e s, Decoder_DecodeInt64 fuel p off mode ks ke = .ret (v, e) s ∧
      s.d_p = p ∧ s.d_mode = mode ∧ s.d_keyStart = ks ∧ s.d_keyEnd = ke ∧
      (match ((decOf p off ks ke fast).step .int64) with
       | (d', .ok (.int x), _) => e = .nil ∧ v.toInt = x ∧ s.d_offset.toNat = d'.off
       | (_, .err, _) => e ≠ .nil ∧ s.d_offset = off
       | _ => False) :=
  (DecodeInt64_sim fuel p off mode ks ke fast hp hoff hf).elim

/-- values above 2^32-1 are an error, the cursor stays -/
theorem DecodeUInt32_refines (fuel : Nat) (hf : 11 ≤ fuel) (p : Bytes) (off mode ks ke : BitVec 64) (fast : Bool)
    (hp : p.length < 2 ^ 63) (hoff : off.toNat ≤ p.length) :
    ∃ v e s, Decoder_DecodeUInt32 fuel p off mode ks ke = .ret (v, e) s ∧
      s.d_p = p ∧ s.d_mode = mode ∧ s.d_keyStart = ks ∧ s.d_keyEnd = ke ∧
      (match ((decOf p off ks ke fast).step .uint32) with
       | (d', .ok (.nat x), _) => e = .nil ∧ v.toNat = x ∧ s.d_offset.toNat = d'.off
       | (_, .err, _) => e ≠ .nil ∧ s.d_offset = off
       | _ => False) :=
  (DecodeUInt32_sim fuel p off mode ks ke fast hp hoff hf).elim

/-- a value outside the int32 range is an error -/
theorem DecodeInt32_refines (fuel : Nat) (hf : 11 ≤ fuel) (p : Bytes) (off mode ks ke : BitVec 64) (fast : Bool)
    (hp : p.length < 2 ^ 63) (hoff : off.toNat ≤ p.length) :
    ∃ v e s, Decoder_DecodeInt32 fuel p off mode ks ke = .ret (v, e) s ∧
      s.d_p = p ∧ s.d_mode = mode ∧ s.d_keyStart = ks ∧ s.d_keyEnd = ke ∧
      (match ((decOf p off ks ke fast).step .int32) with
       | (d', .ok (.int x), _) => e = .nil ∧ v.toInt = x ∧ s.d_offset.toNat = d'.off
       | (_, .err, _) => e ≠ .nil ∧ s.d_offset = off
       | _ => False) :=
  (DecodeInt32_sim fuel p off mode ks ke fast hp hoff hf).elim

theorem DecodeSInt64_refines (fuel : Nat) (hf : 11 ≤ fuel) (p : Bytes) (off mode ks ke : BitVec 64) (fast : Bool)
    (hp : p.length < 2 ^ 63) (hoff : off.toNat ≤ p.length) :
    ∃ v e s, Decoder_DecodeSInt64 fuel p off mode ks ke = .ret (v, e) s ∧
      s.d_p = p ∧ s.d_mode = mode ∧ s.d_keyStart = ks ∧ s.d_keyEnd = ke ∧
      (match ((decOf p off ks ke fast).step .sint64) with
       | (d', .ok (.int x), _) => e = .nil ∧ v.toInt = x ∧ s.d_offset.toNat = d'.off
       | (_, .err, _) => e ≠ .nil ∧ s.d_offset = off
       | _ => False) :=
  (DecodeSInt64_sim fuel p off mode ks ke fast hp hoff hf).elim

theorem DecodeSInt32_refines (fuel : Nat) (hf : 11 ≤ fuel) (p : Bytes) (off mode ks ke : BitVec 64) (fast : Bool)
    (hp : p.length < 2 ^ 63) (hoff : off.toNat ≤ p.length) :
    ∃ v e s, Decoder_DecodeSInt32 fuel p off mode ks ke = .ret (v, e) s ∧
      s.d_p = p ∧ s.d_mode = mode ∧ s.d_keyStart = ks ∧ s.d_keyEnd = ke ∧
      (match ((decOf p off ks ke fast).step .sint32) with
       | (d', .ok (.int x), _) => e = .nil ∧ v.toInt = x ∧ s.d_offset.toNat = d'.off
       | (_, .err, _) => e ≠ .nil ∧ s.d_offset = off
       | _ => False) :=
  (DecodeSInt32_sim fuel p off mode ks ke fast hp hoff hf).elim

theorem DecodeFixed32_refines (fuel : Nat) (p : Bytes) (off mode ks ke : BitVec 64) (fast : Bool)
    (hp : p.length < 2 ^ 63) (hoff : off.toNat ≤ p.length) :
    ∃ v e s, Decoder_DecodeFixed32 fuel p off mode ks ke = .ret (v, e) s ∧
      s.d_p = p ∧ s.d_mode = mode ∧ s.d_keyStart = ks ∧ s.d_keyEnd = ke ∧
      (match ((decOf p off ks ke fast).step .fixed32) with
       | (d', .ok (.nat x), _) => e = .nil ∧ v.toNat = x ∧ s.d_offset.toNat = d'.off
       | (_, .err, _) => e ≠ .nil ∧ s.d_offset = off
       | _ => False) :=
  (DecodeFixed32_sim fuel p off mode ks ke fast hp hoff).elim

theorem DecodeFixed64_refines (fuel : Nat) (p : Bytes) (off mode ks ke : BitVec 64) (fast : Bool)
    (hp : p.length < 2 ^ 63) (hoff : off.toNat ≤ p.length) :
    ∃ v e s, Decoder_DecodeFixed64 fuel p off mode ks ke = .ret (v, e) s ∧
      s.d_p = p ∧ s.d_mode = mode ∧ s.d_keyStart = ks ∧ s.d_keyEnd = ke ∧
      (match ((decOf p off ks ke fast).step .fixed64) with
       | (d', .ok (.nat x), _) => e = .nil ∧ v.toNat = x ∧ s.d_offset.toNat = d'.off
       | (_, .err, _) => e ≠ .nil ∧ s.d_offset = off
       | _ => False) :=
  (DecodeFixed64_sim fuel p off mode ks ke fast hp hoff).elim

/-- any non-zero varint is `true` -/
theorem DecodeBool_refines (fuel : Nat) (hf : 11 ≤ fuel) (p : Bytes) (off mode ks ke : BitVec 64) (fast : Bool)
    (hp : p.length < 2 ^ 63) (hoff : off.toNat ≤ p.length) :
    ∃ v e s, Decoder_DecodeBool fuel p off mode ks ke = .ret (v, e) s ∧
      s.d_p = p ∧ s.d_mode = mode ∧ s.d_keyStart = ks ∧ s.d_keyEnd = ke ∧
      (match ((decOf p off ks ke fast).step .bool) with
       | (d', .ok (.bool x), _) => e = .nil ∧ v = x ∧ s.d_offset.toNat = d'.off
       | (_, .err, _) => e ≠ .nil ∧ s.d_offset = off
       | _ => False) :=
  (DecodeBool_sim fuel p off mode ks ke fast hp hoff hf).elim

theorem step_tag_eof (d : Dec) (h : d.len ≤ d.off) : d.step .tag = (d, .err, 0) := if_pos h

theorem step_tag_err (d : Dec) (h : ¬ d.len ≤ d.off) (hm : decodeVarint (d.p.drop d.off) = .err) : d.step .tag = (d, .err, 0) := by
  exact (if_neg h).trans (by simp only [sliceFrom_cursor d h, hm])

theorem step_tag_ok (d : Dec) (h : ¬ d.len ≤ d.off) {v n : Nat} (hm : decodeVarint (d.p.drop d.off) = .ok (v, n)) :
    d.step .tag = if n < 1 ∨ v < 1 ∨ v >>> 3 > maxTagValue then (d, .err, 0)
      else ({ d with off := d.off + n, ks := d.off, ke := d.off + n }, .ok (.tag (v >>> 3) (v &&& 7)), 0) := by
  simp only [Dec.step, ge_iff_le, h, if_false, sliceFrom_cursor d h, hm]

/-- the key test of `DecodeTag`: `n < 1 || v < 1 || v>>3 > MaxTagValue` -/
theorem tag_test (v n : BitVec 64) (hn : n.toNat < 2 ^ 63) :
    ((BitVec.slt n 1#64 || BitVec.ult v 1#64) || BitVec.ult 536870911#64 (v >>> 3)) =
      decide (n.toNat < 1 ∨ v.toNat < 1 ∨ v.toNat >>> 3 > maxTagValue) := by
  rw [slt_eq_of_lt (y := 1#64) hn (by decide), Bool.or_assoc, Bool.decide_or, Bool.decide_or]
  simp only [BitVec.ult, BitVec.toNat_ushiftRight]
  rfl

abbrev DecodeTag_view (s : Decoder_DecodeTag.St) : Recv := ⟨⟨s.d_p, s.d_mode, s.d_keyStart, s.d_keyEnd⟩, s.d_offset⟩

/-- **`(*Decoder).DecodeTag` of the source refines `Dec.step .tag`**: acceptance (a key below 1, a field number above
    2^29-1 and a malformed varint are errors that leave cursor and key span alone), field number, wire type, the new
    cursor and the recorded key span `[keyStart, keyEnd)`. -/
theorem DecodeTag_refines (fuel : Nat) (hf : 11 ≤ fuel) (p : Bytes) (off mode ks ke : BitVec 64) (fast : Bool)
    (hp : p.length < 2 ^ 63) (hoff : off.toNat ≤ p.length) :
    ∃ t w e s, Decoder_DecodeTag fuel p off mode ks ke = .ret (t, w, e) s ∧ s.d_p = p ∧ s.d_mode = mode ∧
      (match ((decOf p off ks ke fast).step .tag) with
       | (d', .ok (.tag a b), _) => e = .nil ∧ t.toNat = a ∧ w.toNat = b ∧ s.d_offset.toNat = d'.off ∧
            s.d_keyStart.toNat = d'.ks ∧ s.d_keyEnd.toNat = d'.ke
       | (_, .err, _) => e ≠ .nil ∧ s.d_offset = off ∧ s.d_keyStart = ks ∧ s.d_keyEnd = ke
       | _ => False) := by
  by_cases heof : p.length ≤ off.toNat
  · refine ⟨_, _, _, _, atCursor_eof DecodeTag_view
      _ _ _ _ hp hoff heof, rfl, rfl, ?_⟩
    rw [step_tag_eof (decOf p off ks ke fast) heof]
    exact ⟨nofun, rfl, rfl, rfl⟩
  · obtain ⟨v, n, e, c, hd, hcase⟩ := reads_varint fuel hf (p.drop off.toNat) (drop_len p _ hp)
    rw [show Decoder_DecodeTag fuel p off mode ks ke = _ from
      atCursor_next DecodeTag_view _ _ _ _ hp hoff heof
        (s' := { d_p := p, d_offset := off, d_mode := mode, d_keyStart := ks, d_keyEnd := ke, v := v, n := n, err := e })
        (by simp only [hoff, hd, if_true])]
    generalize hX : Go.seq _ Go.missingReturn _ = X
    rcases hcase with ⟨rfl, hm, hpos, hle⟩ | ⟨hne, hm⟩
    · rw [List.length_drop] at hle
      have hsum : (off + n).toNat = off.toNat + n.toNat := off_add_toNat hp hoff hle
      rw [step_tag_ok (decOf p off ks ke fast) heof hm]
      simp only [↓Go.seq_assoc, ↓Go.seq_guard, Go.seq, bne_self_eq_false, Bool.false_eq_true, if_false,
        tag_test v n (Nat.lt_of_le_of_lt (Nat.le_trans hle (Nat.sub_le _ _)) hp)] at hX
      by_cases hbad : n.toNat < 1 ∨ v.toNat < 1 ∨ v.toNat >>> 3 > maxTagValue
      · rw [if_pos hbad]
        rw [if_pos (decide_eq_true hbad)] at hX
        exact ⟨_, _, _, _, hX.symm, rfl, rfl, nofun, rfl, rfl, rfl⟩
      · rw [if_neg hbad]
        rw [if_neg (mt of_decide_eq_true hbad)] at hX
        exact ⟨_, _, _, _, hX.symm, rfl, rfl, rfl, BitVec.toNat_ushiftRight .., BitVec.toNat_and .., hsum, rfl, hsum⟩
    · rw [step_tag_err (decOf p off ks ke fast) heof hm]
      have : (e != Go.Err.nil) = true := bne_iff_ne.mpr hne
      simp only [Go.seq, this, if_true] at hX
      exact ⟨_, _, _, _, hX.symm, rfl, rfl, hne, rfl, rfl, rfl⟩

/-- `Offset()` returns the cursor and changes nothing -/
theorem Offset_refines (fuel : Nat) (p : Bytes) (off mode ks ke : BitVec 64) :
    Decoder_Offset fuel p off mode ks ke =
      .ret off { d_p := p, d_offset := off, d_mode := mode, d_keyStart := ks, d_keyEnd := ke } := rfl

/-- `Reset()` moves the cursor to 0 and changes nothing else -/
theorem Reset_refines (fuel : Nat) (p : Bytes) (off mode ks ke : BitVec 64) :
    Decoder_Reset fuel p off mode ks ke =
      .ret () { d_p := p, d_offset := 0#64, d_mode := mode, d_keyStart := ks, d_keyEnd := ke } := rfl

/-- `More()` is `offset < len(p)` and changes nothing -/
theorem More_refines (fuel : Nat) (p : Bytes) (off mode ks ke : BitVec 64) (hp : p.length < 2 ^ 63) (hoff : off.toNat ≤ p.length) :
    Decoder_More fuel p off mode ks ke =
      .ret (decide (off.toNat < p.length)) { d_p := p, d_offset := off, d_mode := mode, d_keyStart := ks, d_keyEnd := ke } := by
  have h : BitVec.slt off (BitVec.ofNat 64 p.length) = decide (off.toNat < p.length) := by
    rw [slt_eq_of_lt (Nat.lt_of_le_of_lt hoff hp) ((toNat_ofNat_63 hp).symm ▸ hp), toNat_ofNat_63 hp]
  simp only [Decoder_More, Decoder_More.body, Go.seq, h]

theorem lenPrefix_eof (d : Dec) (h : d.len ≤ d.off) : d.lenPrefix = .err := by
  simp only [Dec.lenPrefix, ge_iff_le, h, if_true]

theorem lenPrefix_err (d : Dec) (h : ¬ d.len ≤ d.off) (hm : decodeVarint (d.p.drop d.off) = .err) : d.lenPrefix = .err := by
  simp only [Dec.lenPrefix, ge_iff_le, h, if_false, sliceFrom_cursor d h, hm]

theorem lenPrefix_ok (d : Dec) (h : ¬ d.len ≤ d.off) {l n : Nat} (hm : decodeVarint (d.p.drop d.off) = .ok (l, n)) :
    d.lenPrefix = if n = 0 then .err else if l > maxFieldLen then .err else if d.off + n + l > d.len then .err
      else .ok (d.off + n, l) := by
  simp only [Dec.lenPrefix, ge_iff_le, h, if_false, sliceFrom_cursor d h, hm]

theorem step_bytes_err (d : Dec) (h : d.lenPrefix = .err) : d.step .bytes = (d, .err, 0) := by
  show withAlloc d.bytesOp 0 = _
  simp only [withAlloc, Dec.bytesOp, h]

theorem step_bytes_ok (d : Dec) {start l : Nat} (h : d.lenPrefix = .ok (start, l)) :
    d.step .bytes = ({ d with off := start + l }, .ok (.bytes ((d.p.drop start).take l)), 0) := by
  show withAlloc d.bytesOp 0 = _
  simp only [withAlloc, Dec.bytesOp, h]

/-- a length prefix of `n` bytes inside the buffer and a declared length of at most 2^31-1: the end of the payload, as
    `DecodeBytes` and `Skip` compute it, does not wrap -/
theorem prefix_arith {len off n l : Nat} (hlen : len < 2 ^ 62) (hoff : off ≤ len) (hn : n ≤ len - off) (hl : l ≤ 2147483647) :
    off + n + l < 2 ^ 63 :=
  have h : off + n < 2 ^ 62 := Nat.lt_of_le_of_lt (Nat.add_le_of_le_sub' hoff hn) hlen
  Nat.lt_of_lt_of_le (Nat.add_lt_add_of_lt_of_le h hl) (by decide)

/-- The tests behind `l, n, err := DecodeVarint(d.p[d.offset:])` where `l` is a length prefix (`DecodeBytes`, the
    length-delimited arm of `Skip`): `if err != nil { A } else if n == 0 { B } else if l > MaxFieldLen { C }`, then `D`; `h` is
    what `Reads` says of the call. -/
theorem len_ite {γ : Type} {P : γ → Prop} {A B C D : γ} {q : Bytes} {l n : BitVec 64} {e : Go.Err}
    (h : (e = .nil ∧ decodeVarint q = .ok (l.toNat, n.toNat) ∧ 0 < n.toNat ∧ n.toNat ≤ q.length) ∨ (e ≠ .nil ∧ decodeVarint q = .err))
    (herr : e ≠ .nil → decodeVarint q = .err → P A)
    (hbig : decodeVarint q = .ok (l.toNat, n.toNat) → 0 < n.toNat → maxFieldLen < l.toNat → P C)
    (hok : decodeVarint q = .ok (l.toNat, n.toNat) → 0 < n.toNat → n.toNat ≤ q.length → ¬ maxFieldLen < l.toNat → P D) :
    P (if e != .nil then A else if n == 0#64 then B else if BitVec.ult 2147483647#64 l then C else D) := by
  rcases h with ⟨rfl, hm, hpos, hle⟩ | ⟨he, hm⟩
  · rw [ite_nil_pos hpos, ult_maxLen]
    by_cases hbig' : maxFieldLen < l.toNat
    · rw [if_pos (decide_eq_true hbig')]; exact hbig hm hpos hbig'
    · rw [if_neg (mt of_decide_eq_true hbig')]; exact hok hm hpos hle hbig'
  · rw [if_pos (bne_iff_ne.mpr he)]
    exact herr he hm

abbrev DecodeBytes_view (s : Decoder_DecodeBytes.St) : Recv := ⟨⟨s.d_p, s.d_mode, s.d_keyStart, s.d_keyEnd⟩, s.d_offset⟩

theorem DecodeBytes_sim (fuel : Nat) (hf : 11 ≤ fuel) (p : Bytes) (off mode ks ke : BitVec 64) (fast : Bool)
    (hp : p.length < 2 ^ 62) (hoff : off.toNat ≤ p.length) :
    Agrees DecodeBytes_view id .bytes
      ⟨⟨p, mode, ks, ke⟩, off⟩ fast .bytes (Decoder_DecodeBytes fuel p off mode ks ke) := by
  have hp63 : p.length < 2 ^ 63 := Nat.lt_trans hp (by decide)
  by_cases heof : p.length ≤ off.toNat
  · rw [show Decoder_DecodeBytes fuel p off mode ks ke = _ from
      atCursor_eof DecodeBytes_view _ _ _ _ hp63 hoff heof]
    exact .err (step_bytes_err _ (lenPrefix_eof (decOf p off ks ke fast) heof)) nofun rfl
  · obtain ⟨l, n, e, c, hd, hcase⟩ := reads_varint fuel hf (p.drop off.toNat) (drop_len p _ hp63)
    rw [show Decoder_DecodeBytes fuel p off mode ks ke = _ from
      atCursor_next DecodeBytes_view _ _ _ _ hp63 hoff heof
        (s' := { d_p := p, d_offset := off, d_mode := mode, d_keyStart := ks, d_keyEnd := ke, l := l, n := n, err := e })
        (by simp only [hoff, hd, if_true])]
    generalize hX : Go.seq _ Go.missingReturn _ = X
    simp only [↓Go.seq_assoc, ↓Go.seq_ite, Go.seq, Go.skip] at hX
    subst hX
    refine len_ite hcase (fun hne hm => ?_) (fun hm hpos hbig => ?_) (fun hm hpos hle hbig => ?_)
    · exact .err (step_bytes_err _ (lenPrefix_err (decOf p off ks ke fast) heof hm)) hne rfl
    · have hlp := (lenPrefix_ok (decOf p off ks ke fast) heof hm).trans (if_neg (Nat.ne_of_gt hpos))
      exact .err (step_bytes_err _ (hlp.trans (if_pos hbig))) nofun rfl
    · rw [List.length_drop] at hle
      have a2 := prefix_arith hp hoff hle (Nat.le_of_not_lt hbig)
      have hsum : (off + n).toNat = off.toNat + n.toNat := off_add_toNat hp63 hoff hle
      have hsum2 : (off + n + l).toNat = off.toNat + n.toNat + l.toNat :=
        (BitVec.toNat_add_of_lt (hsum ▸ Nat.lt_trans a2 (by decide))).trans (congrArg (· + l.toNat) hsum)
      have hlp := ((lenPrefix_ok (decOf p off ks ke fast) heof hm).trans (if_neg (Nat.ne_of_gt hpos))).trans (if_neg hbig)
      rw [slt_len p (off + n + l) hp63 (hsum2 ▸ a2), hsum, hsum2]
      by_cases hover : p.length < off.toNat + n.toNat + l.toNat
      · rw [if_pos (decide_eq_true hover)]
        exact .err (step_bytes_err _ (hlp.trans (if_pos hover))) nofun rfl
      · rw [if_neg (mt of_decide_eq_true hover), if_pos ⟨Nat.le_add_right _ _, Nat.le_of_not_lt hover⟩, Nat.add_sub_cancel_left]
        refine .ok (step_bytes_ok _ (hlp.trans (if_neg hover))) rfl ?_
        show (off + (n + l)).toNat = _
        rw [← BitVec.add_assoc, hsum2]

/-- **`(*Decoder).DecodeBytes` of the source refines `Dec.step .bytes`**: the length prefix is validated (malformed varint,
    more than 2^31-1, beyond the remaining input: errors that leave the cursor), the returned slice is exactly the payload,
    the cursor ends behind it.  (A Go slice holds fewer than 2^62 bytes.) -/
theorem DecodeBytes_refines (fuel : Nat) (hf : 11 ≤ fuel) (p : Bytes) (off mode ks ke : BitVec 64) (fast : Bool)
    (hp : p.length < 2 ^ 62) (hoff : off.toNat ≤ p.length) :
    ∃ b e s, Decoder_DecodeBytes fuel p off mode ks ke = .ret (b, e) s ∧
      s.d_p = p ∧ s.d_mode = mode ∧ s.d_keyStart = ks ∧ s.d_keyEnd = ke ∧
      (match ((decOf p off ks ke fast).step .bytes) with
       | (d', .ok (.bytes x), _) => e = .nil ∧ b = x ∧ s.d_offset.toNat = d'.off
       | (_, .err, _) => e ≠ .nil ∧ s.d_offset = off
       | _ => False) :=
  (DecodeBytes_sim fuel hf p off mode ks ke fast hp hoff).elim

end Csproto.Bridge.DecoderFuncs
