import Csproto.Proofs.GenRecords
/-
  The generated `Unmarshal` on sequences of well-formed records that include **nested messages**
  (singular and repeated, to any depth, recursive types included) and **map entries** (key and value in
  either order, omitted or repeated, with foreign fields in between): it computes the fold of the record
  rule, where a message-typed record decodes its payload with the same fold and a map record runs the
  entry rule (`foldE`) and inserts the entry.

  For a singular message field the rule is the code's — the LAST occurrence replaces the field (open
  finding B9: the protobuf runtimes merge).  When no singular message field occurs twice (which is how
  `Marshal` and every runtime's writer emit them) this is the reference rule.
-/
namespace Csproto.Gen
open Csproto Csproto.C01

inductive NRec where
  | flat (r : WRec)                                         -- scalar element / packed run / unknown field
  | msg (idx : Nat) (fd : FD) (i : Nat) (sub : List NRec)   -- message-typed field of type `S.md i`
  | map (idx : Nat) (fd : FD) (i : Nat) (sub : List NRec)   -- one entry of a map field; entry type `S.md i`

mutual
def NRec.wire : NRec → Bytes
  | .flat r => r.wire
  | .msg _ fd _ sub => encTag fd.num wtLen ++ encVarint (wiresN sub).length ++ wiresN sub
  | .map _ fd _ sub => encTag fd.num wtLen ++ encVarint (wiresN sub).length ++ wiresN sub
def wiresN : List NRec → Bytes
  | [] => []
  | r :: rs => r.wire ++ wiresN rs
end

mutual
/-- fuel the loop spends on a record -/
def NRec.cost : NRec → Nat
  | .flat _ => 1
  | .msg _ _ _ sub => 3 + costs sub
  | .map _ _ _ sub => 3 + costs sub
def costs : List NRec → Nat
  | [] => 0
  | r :: rs => r.cost + costs rs
end

def flatOKE (emd : MD) : WRec → Prop
  | .scalar idx fd k v => findField emd fd.num 0 = some (idx, fd) ∧ fd.ty = .sc k ∧ ValidTag fd.num ∧ DecValid k v ∧
      isRep fd.card = false
  | .packed _ _ _ _ => False
  | .unknown r => r.OK ∧ findField emd r.tag 0 = none

mutual
def NRec.OK (S : Schema) (md : MD) : NRec → Prop
  | .flat r => r.OK md
  | .msg idx fd i sub => findField md fd.num 0 = some (idx, fd) ∧ fd.ty = .msg i ∧ ValidTag fd.num ∧ fd.card ≠ .map ∧
      (wiresN sub).length ≤ maxFieldLen ∧ OKs S (S.md i) sub
  | .map idx fd i sub => findField md fd.num 0 = some (idx, fd) ∧ fd.ty = .msg i ∧ ValidTag fd.num ∧ fd.card = .map ∧
      (wiresN sub).length ≤ maxFieldLen ∧ OKsE S (S.md i) sub
def OKs (S : Schema) (md : MD) : List NRec → Prop
  | [] => True
  | r :: rs => r.OK S md ∧ OKs S md rs
/-- a record inside a map entry: the key or the value (scalar, or a message), or a field the entry type does
    not define — in any order, any number of times -/
def NRec.OKE (S : Schema) (emd : MD) : NRec → Prop
  | .flat w => flatOKE emd w
  | .msg idx fd j sub => findField emd fd.num 0 = some (idx, fd) ∧ fd.ty = .msg j ∧ ValidTag fd.num ∧ fd.card ≠ .map ∧
      fd.card ≠ .list ∧ (wiresN sub).length ≤ maxFieldLen ∧ OKs S (S.md j) sub
  | .map _ _ _ _ => False
def OKsE (S : Schema) (emd : MD) : List NRec → Prop
  | [] => True
  | r :: rs => r.OKE S emd ∧ OKsE S emd rs
end

/-- a message-valued entry without a value gets an empty message -/
def fillEntry (S : Schema) (emd : MD) (efs : List F) : List F :=
  (emd.zip efs).map fun (p : FD × F) =>
    match p.1.ty, p.2 with
    | .msg j, .unset => F.one (.msg (initFields (S.md j)) [])
    | _, ef => ef

/-- a scalar record inside a map entry sets its field; anything else is dropped -/
def flatE (efs : List F) : WRec → List F
  | .scalar idx _ k v => efs.set idx (.one (decodedV k v))
  | _ => efs

theorem requiredMissing_init_eq (md : MD) : requiredMissing md (initFields md) = hasRequired md := by
  induction md with
  | nil => rfl
  | cons fd md ih =>
    simp only [requiredMissing, initFields, List.map_cons, List.zip_cons_cons, List.any_cons, hasRequired] at *
    rw [ih]
    congr 1
    cases hc : fd.card <;> simp [initField, hc]

theorem requiredMissing_cons (fd : FD) (md : MD) (f : F) (fs : List F) :
    requiredMissing (fd :: md) (f :: fs) = (requiredMissing [fd] [f] || requiredMissing md fs) := by
  simp [requiredMissing]

/-- the end of a (sub-)message: the empty message short cut, else the required-field check -/
def finishN (md : MD) (isNil : Bool) (res : Res (List F × Bytes)) : Res (List F × Bytes) :=
  if isNil then (if hasRequired md then .err else .ok (initFields md, [])) else
  match res with
  | .ok (fs, unk) => if requiredMissing md fs then .err else .ok (fs, unk)
  | e => e

mutual
def NRec.applyN (S : Schema) (md : MD) (st : List F × Bytes) : NRec → Res (List F × Bytes)
  | .flat r => .ok (r.apply md st)
  | .msg idx fd i sub =>
    match finishN (S.md i) sub.isEmpty (foldN S (S.md i) sub (initFields (S.md i), [])) with
    | .ok (nfs, nunk) =>
      .ok (assign md st.1 idx fd
        (match fd.card with
         | .list => appendTo (st.1.getD idx .unset) [.msg nfs nunk]
         | _ => .one (.msg nfs nunk)), st.2)
    | .err => .err
    | .panic => .panic
  | .map idx fd i sub =>
    match foldE S (S.md i) sub (initFields (S.md i)) with
    | .ok efs =>
      .ok (assign md st.1 idx fd
        (match st.1.getD idx .unset with
         | .many es => .many (mapInsert (.msg (fillEntry S (S.md i) efs) []) es)
         | _ => .many [.msg (fillEntry S (S.md i) efs) []]), st.2)
    | .err => .err
    | .panic => .panic
/-- the rule for one record of a map entry: the LAST key and the LAST value win, other fields are dropped -/
def NRec.applyE (S : Schema) (efs : List F) : NRec → Res (List F)
  | .flat w => .ok (flatE efs w)
  | .msg idx _ j sub =>
    match finishN (S.md j) sub.isEmpty (foldN S (S.md j) sub (initFields (S.md j), [])) with
    | .ok (nfs, nunk) => .ok (efs.set idx (.one (.msg nfs nunk)))
    | .err => .err
    | .panic => .panic
  | .map _ _ _ _ => .ok efs
def foldE (S : Schema) (emd : MD) : List NRec → List F → Res (List F)
  | [], efs => .ok efs
  | r :: rs, efs =>
    match r.applyE S efs with
    | .ok efs' => foldE S emd rs efs'
    | .err => .err
    | .panic => .panic
def foldN (S : Schema) (md : MD) : List NRec → List F × Bytes → Res (List F × Bytes)
  | [], st => .ok st
  | r :: rs, st =>
    match r.applyN S md st with
    | .ok st' => foldN S md rs st'
    | .err => .err
    | .panic => .panic
end

/-- the rule for a whole (sub-)message: fold from the reset state, then the required-field check -/
def decodeMsgN (S : Schema) (md : MD) (rs : List NRec) : Res (List F × Bytes) :=
  match rs with
  | [] => if hasRequired md then .err else .ok (initFields md, [])
  | r :: rest =>
    match foldN S md (r :: rest) (initFields md, []) with
    | .ok (fs, unk) => if requiredMissing md fs then .err else .ok (fs, unk)
    | e => e

theorem finishN_eq (S : Schema) (md : MD) (rs : List NRec) :
    finishN md rs.isEmpty (foldN S md rs (initFields md, [])) = decodeMsgN S md rs := by
  cases rs <;> rfl

/-- the rule for a whole message without the case of no records set apart: the reset state has a required field
    missing exactly when the type declares one -/
theorem decodeMsgN_eq (S : Schema) (md : MD) (rs : List NRec) :
    decodeMsgN S md rs =
      match foldN S md rs (initFields md, []) with
      | .ok (fs, unk) => if requiredMissing md fs then .err else .ok (fs, unk)
      | e => e := by
  cases rs with
  | nil =>
    show (if hasRequired md then Res.err else .ok (initFields md, [])) =
      if requiredMissing md (initFields md) then .err else .ok (initFields md, [])
    rw [requiredMissing_init_eq]
  | cons r rs => rfl

theorem decodeMsgN_eq_ok {S : Schema} {md : MD} {rs : List NRec} {st : List F × Bytes} :
    decodeMsgN S md rs = .ok st ↔ foldN S md rs (initFields md, []) = .ok st ∧ requiredMissing md st.1 = false := by
  rw [decodeMsgN_eq]
  cases foldN S md rs (initFields md, []) with
  | ok s =>
    show (if requiredMissing md s.1 then Res.err else .ok s) = .ok st ↔ _
    cases hr : requiredMissing md s.1
    · exact ⟨fun h => ⟨h, by cases h; exact hr⟩, fun h => h.1⟩
    · exact ⟨nofun, fun h => by cases h.1; exact absurd h.2 (by simp [hr])⟩
  | err => exact ⟨nofun, fun h => nomatch h.1⟩
  | panic => exact ⟨nofun, fun h => nomatch h.1⟩

theorem NRec.applyN_flat (S : Schema) (md : MD) (st : List F × Bytes) (r : WRec) :
    (NRec.flat r).applyN S md st = .ok (r.apply md st) := rfl

theorem NRec.applyN_msg (S : Schema) (md : MD) (st : List F × Bytes) (idx : Nat) (fd : FD) (i : Nat) (sub : List NRec) :
    (NRec.msg idx fd i sub).applyN S md st =
      match decodeMsgN S (S.md i) sub with
      | .ok (nfs, nunk) =>
        .ok (assign md st.1 idx fd
          (match fd.card with
           | .list => appendTo (st.1.getD idx .unset) [.msg nfs nunk]
           | _ => .one (.msg nfs nunk)), st.2)
      | .err => .err
      | .panic => .panic := by
  rw [← finishN_eq]; rfl

theorem NRec.applyN_map (S : Schema) (md : MD) (st : List F × Bytes) (idx : Nat) (fd : FD) (i : Nat) (sub : List NRec) :
    (NRec.map idx fd i sub).applyN S md st =
      match foldE S (S.md i) sub (initFields (S.md i)) with
      | .ok efs =>
        .ok (assign md st.1 idx fd
          (match st.1.getD idx .unset with
           | .many es => .many (mapInsert (.msg (fillEntry S (S.md i) efs) []) es)
           | _ => .many [.msg (fillEntry S (S.md i) efs) []]), st.2)
      | .err => .err
      | .panic => .panic := rfl

theorem NRec.applyE_msg (S : Schema) (efs : List F) (idx : Nat) (fd : FD) (j : Nat) (sub : List NRec) :
    (NRec.msg idx fd j sub).applyE S efs =
      match decodeMsgN S (S.md j) sub with
      | .ok (nfs, nunk) => .ok (efs.set idx (.one (.msg nfs nunk)))
      | .err => .err
      | .panic => .panic := by
  rw [← finishN_eq]; rfl

/-! The recursive functions on records unfold by `rfl` on a constructor; their equations on `r :: rs`: -/

theorem wiresN_cons (r : NRec) (rs : List NRec) : wiresN (r :: rs) = r.wire ++ wiresN rs := rfl

theorem costs_cons (r : NRec) (rs : List NRec) : costs (r :: rs) = r.cost + costs rs := rfl

theorem foldN_cons (S : Schema) (md : MD) (r : NRec) (rs : List NRec) (st : List F × Bytes) :
    foldN S md (r :: rs) st =
      match r.applyN S md st with
      | .ok st' => foldN S md rs st'
      | .err => .err
      | .panic => .panic := rfl

theorem foldE_cons (S : Schema) (emd : MD) (r : NRec) (rs : List NRec) (efs : List F) :
    foldE S emd (r :: rs) efs =
      match r.applyE S efs with
      | .ok efs' => foldE S emd rs efs'
      | .err => .err
      | .panic => .panic := rfl

theorem wiresN_append (a b : List NRec) : wiresN (a ++ b) = wiresN a ++ wiresN b := by
  induction a with
  | nil => rfl
  | cons r a ih => rw [List.cons_append, wiresN_cons, wiresN_cons, ih, List.append_assoc]

theorem wiresN_flat (rs : List WRec) : wiresN (rs.map NRec.flat) = wiresW rs := by
  induction rs with
  | nil => rfl
  | cons r rs ih => rw [List.map_cons, wiresN_cons, wiresW_cons, ih]; rfl

theorem costs_flat (rs : List WRec) : costs (rs.map NRec.flat) = rs.length := by
  induction rs with
  | nil => rfl
  | cons r rs ih => rw [List.map_cons, costs_cons, ih, List.length_cons]; exact Nat.add_comm 1 _

theorem OKs_flat (S : Schema) (md : MD) (ws : List WRec) (h : ∀ w ∈ ws, w.OK md) : OKs S md (ws.map NRec.flat) := by
  induction ws with
  | nil => trivial
  | cons w ws ih => exact ⟨h w (List.mem_cons_self ..), ih fun x hx => h x (List.mem_cons_of_mem _ hx)⟩

theorem OKs_append (S : Schema) (md : MD) (a b : List NRec) : OKs S md (a ++ b) ↔ OKs S md a ∧ OKs S md b := by
  induction a with
  | nil => exact ⟨fun h => ⟨trivial, h⟩, fun h => h.2⟩
  | cons r a ih =>
    show r.OK S md ∧ OKs S md (a ++ b) ↔ (r.OK S md ∧ OKs S md a) ∧ OKs S md b
    rw [ih, and_assoc]

theorem foldN_cons_ok {S : Schema} {md : MD} {r : NRec} {st st' : List F × Bytes} (rs : List NRec)
    (h : r.applyN S md st = .ok st') : foldN S md (r :: rs) st = foldN S md rs st' := by
  rw [foldN_cons, h]

theorem foldN_flat (S : Schema) (md : MD) : ∀ (ws : List WRec) (st : List F × Bytes),
    foldN S md (ws.map NRec.flat) st = .ok (ws.foldl (WRec.apply md) st)
  | [], st => rfl
  | w :: ws, st => by
    rw [List.map_cons, foldN_cons_ok _ (NRec.applyN_flat S md st w), foldN_flat S md ws]; rfl

theorem foldN_cons_eq_ok {S : Schema} {md : MD} {r : NRec} {rs : List NRec} {st st' : List F × Bytes} :
    foldN S md (r :: rs) st = .ok st' ↔ ∃ s1, r.applyN S md st = .ok s1 ∧ foldN S md rs s1 = .ok st' := by
  rw [foldN_cons]
  cases r.applyN S md st with
  | ok s1 => exact ⟨fun h => ⟨s1, rfl, h⟩, fun ⟨_, e, h⟩ => by cases e; exact h⟩
  | err => exact ⟨nofun, fun ⟨_, e, _⟩ => nomatch e⟩
  | panic => exact ⟨nofun, fun ⟨_, e, _⟩ => nomatch e⟩

theorem foldN_append (S : Schema) (md : MD) : ∀ (a b : List NRec) (st st' : List F × Bytes),
    foldN S md a st = .ok st' → foldN S md (a ++ b) st = foldN S md b st'
  | [], b, st, st', h => by cases h; rfl
  | r :: a, b, st, st', h => by
    obtain ⟨s1, hr, h⟩ := foldN_cons_eq_ok.mp h
    rw [List.cons_append, foldN_cons_ok _ hr]
    exact foldN_append S md a b s1 st' h

theorem NRec.wire_ne_nil (S : Schema) (md : MD) (r : NRec) (h : r.OK S md) : r.wire ≠ [] := by
  cases r with
  | flat w => exact WRec.wire_ne_nil md w h
  | msg idx fd i sub =>
    show encTag fd.num wtLen ++ _ ++ _ ≠ []
    simp [encTag, encVarint_ne_nil]
  | map idx fd i sub =>
    show encTag fd.num wtLen ++ _ ++ _ ≠ []
    simp [encTag, encVarint_ne_nil]

theorem NRec.cost_pos (r : NRec) : 1 ≤ r.cost := by
  cases r with
  | flat _ => exact Nat.le_refl 1
  | msg _ _ _ sub =>
    show 1 ≤ 3 + costs sub
    omega
  | map _ _ _ sub =>
    show 1 ≤ 3 + costs sub
    omega

theorem fieldStep_msg (S : Schema) (fast : Bool) (fuel : Nat) {fd : FD} {i : Nat} (hty : fd.ty = .msg i)
    (hnm : fd.card ≠ .map) {d d' : Dec} {payload : Bytes} (cur : F) (hb : d.bytesOp = (d', .ok (.bytes payload))) :
    fieldStep S fast (fuel + 1) fd wtLen d cur =
      match unmarshalMsg S fast fuel (S.md i) payload with
      | .ok (nfs, nunk) =>
        .ok (d', match fd.card with
                 | .list => appendTo cur [.msg nfs nunk]
                 | _ => .one (.msg nfs nunk))
      | .err => .err
      | .panic => .panic := by
  simp only [fieldStep, hty, ne_eq, not_true_eq_false, if_false, hb]
  cases hc : fd.card
  case map => exact absurd hc hnm
  all_goals rfl

theorem fieldStep_map (S : Schema) (fast : Bool) (fuel : Nat) {fd : FD} {i : Nat} (hty : fd.ty = .msg i)
    (hm : fd.card = .map) {d d' : Dec} {payload : Bytes} (cur : F) (hb : d.bytesOp = (d', .ok (.bytes payload))) :
    fieldStep S fast (fuel + 1) fd wtLen d cur =
      match entryLoop S fast fuel (S.md i) { p := payload, off := 0, fast := fast } (initFields (S.md i)) with
      | .ok efs =>
        .ok (d', match cur with
                 | .many es => .many (mapInsert (.msg (fillEntry S (S.md i) efs) []) es)
                 | _ => .many [.msg (fillEntry S (S.md i) efs) []])
      | .err => .err
      | .panic => .panic := by
  simp only [fieldStep, hty, ne_eq, not_true_eq_false, if_false, hb, hm]
  rfl

/-- `unmarshalMsg` from what its loop computes (`hloop`: the statement of `loopN`, in whose recursion this is used):
    the empty-message short cut, else the loop and the required check -/
theorem unmarshalMsg_of_loop (S : Schema) (fast : Bool) (md : MD) (rs : List NRec) (hok : OKs S md rs)
    (hloop : ∀ (fuel : Nat) (d : Dec) (pre : Bytes) (fs : List F) (unk : Bytes), costs rs + 1 ≤ fuel →
      d.At pre (wiresN rs) → d.fast = fast → unmarshalLoop S fast fuel md d fs unk = foldN S md rs (fs, unk))
    (fuel : Nat) (hf : costs rs + 2 ≤ fuel) : unmarshalMsg S fast fuel md (wiresN rs) = decodeMsgN S md rs := by
  obtain ⟨f, rfl⟩ : ∃ f, fuel = f + 1 := ⟨fuel - 1, by omega⟩
  rw [unmarshalMsg, hloop f _ [] _ _ (by omega) (at_start _ _) rfl]
  cases rs with
  | nil =>
    show (if (!hasRequired md && true) = true then Res.ok (initFields md, []) else
        if requiredMissing md (initFields md) then .err else .ok (initFields md, [])) =
      if hasRequired md then .err else .ok (initFields md, [])
    rw [requiredMissing_init_eq]
    cases hasRequired md <;> rfl
  | cons r rest =>
    have hie : (wiresN (r :: rest)).isEmpty = false := by
      rw [wiresN_cons, List.isEmpty_eq_false_iff]
      exact fun e => NRec.wire_ne_nil S md r hok.1 (List.append_eq_nil_iff.mp e).1
    simp only [hie, Bool.and_false, Bool.false_eq_true, if_false, decodeMsgN]
    rfl

/-- one iteration of the entry loop on a record without payload records -/
theorem entryLoop_step (S : Schema) (fast : Bool) (emd : MD) (w : WRec) (hok : flatOKE emd w) (fuel : Nat) (d : Dec)
    (pre post : Bytes) (efs : List F) (hAt : d.At pre (w.wire ++ post)) (hf : d.fast = fast) :
    ∃ d', d'.At (pre ++ w.wire) post ∧ d'.fast = fast ∧
      entryLoop S fast (fuel + 2) emd d efs = entryLoop S fast (fuel + 1) emd d' (flatE efs w) := by
  cases w with
  | scalar idx fd k v =>
    obtain ⟨hfind, hty, htag, hval, hrep⟩ := hok
    obtain ⟨d1, d2, h1, h2, hAt2, hf2⟩ := scalarRec_at S fast fuel hty htag hval (efs.getD idx .unset) hAt
    rw [hrep] at h2
    exact ⟨d2, hAt2, hf2.trans hf, by rw [entryLoop_field S _ efs h1 hfind, h2]; rfl⟩
  | packed _ _ _ _ => exact hok.elim
  | unknown r =>
    obtain ⟨d1, d2, h1, h2, hAt2, hf2⟩ := skipRec_at hok.1 hAt
    exact ⟨d2, hAt2, hf2.trans hf, entryLoop_skip S _ efs h1 hok.2 h2⟩

mutual
theorem loopN (S : Schema) (fast : Bool) (md : MD) : ∀ (rs : List NRec), OKs S md rs →
    ∀ (fuel : Nat) (d : Dec) (pre : Bytes) (fs : List F) (unk : Bytes), costs rs + 1 ≤ fuel →
      d.At pre (wiresN rs) → d.fast = fast →
      unmarshalLoop S fast fuel md d fs unk = foldN S md rs (fs, unk)
  | [], _, fuel, d, pre, fs, unk, hf, hAt, _ => by
    obtain ⟨f, rfl⟩ : ∃ f, fuel = f + 1 := ⟨fuel - 1, by omega⟩
    exact unmarshalLoop_end S fast f md fs unk hAt
  | r :: rs, hok, fuel, d, pre, fs, unk, hf, hAt, hfast => by
    rw [wiresN_cons] at hAt
    have hcpos := r.cost_pos
    rw [costs_cons] at hf
    obtain ⟨f, rfl⟩ : ∃ f, fuel = f + 2 := ⟨fuel - 2, by omega⟩
    obtain ⟨d', hAt', hfast', hstep⟩ := stepN S fast md r hok.1 f d pre (wiresN rs) fs unk hAt hfast (by omega)
    rw [hstep, foldN_cons]
    cases ha : r.applyN S md (fs, unk) with
    | ok st' => exact loopN S fast md rs hok.2 (f + 1) d' (pre ++ r.wire) st'.1 st'.2 (by omega) hAt' hfast'
    | err => rfl
    | panic => rfl

/-- one iteration: either the record's rule fails and so does the loop, or the loop continues after the
    record with the rule's result and `cost` less fuel -/
theorem stepN (S : Schema) (fast : Bool) (md : MD) : ∀ (r : NRec), r.OK S md →
    ∀ (fuel : Nat) (d : Dec) (pre post : Bytes) (fs : List F) (unk : Bytes),
      d.At pre (r.wire ++ post) → d.fast = fast → r.cost ≤ fuel + 1 →
      ∃ d', d'.At (pre ++ r.wire) post ∧ d'.fast = fast ∧
        unmarshalLoop S fast (fuel + 2) md d fs unk =
          (match r.applyN S md (fs, unk) with
           | .ok st' => unmarshalLoop S fast (fuel + 1) md d' st'.1 st'.2
           | .err => .err
           | .panic => .panic)
  | .flat w, hok, fuel, d, pre, post, fs, unk, hAt, hfast, _ => by
    obtain ⟨d', hAt', hfast', hstep⟩ := loop_step S fast md w hok fuel d pre post fs unk hAt hfast
    exact ⟨d', hAt', hfast', by rw [NRec.applyN_flat, hstep]⟩
  | .msg idx fd i sub, hok, fuel, d, pre, post, fs, unk, hAt, hfast, hcost => by
    obtain ⟨hfind, hty, htag, hnm, hlen, hsub⟩ := hok
    change 3 + costs sub ≤ fuel + 1 at hcost
    obtain ⟨d1, d2, h1, h2, hAt2, hf2⟩ := lenRec_at (body := wiresN sub) htag hlen hAt
    refine ⟨d2, hAt2, hf2.trans hfast, ?_⟩
    rw [unmarshalLoop_field S _ fs unk h1 hfind, fieldStep_msg S fast fuel hty hnm _ h2,
      unmarshalMsg_of_loop S fast (S.md i) sub hsub (loopN S fast (S.md i) sub hsub) fuel (by omega), NRec.applyN_msg]
    cases decodeMsgN S (S.md i) sub <;> rfl
  | .map idx fd i sub, hok, fuel, d, pre, post, fs, unk, hAt, hfast, hcost => by
    obtain ⟨hfind, hty, htag, hmap, hlen, hsub⟩ := hok
    change 3 + costs sub ≤ fuel + 1 at hcost
    obtain ⟨d1, d2, h1, h2, hAt2, hf2⟩ := lenRec_at (body := wiresN sub) htag hlen hAt
    refine ⟨d2, hAt2, hf2.trans hfast, ?_⟩
    rw [unmarshalLoop_field S _ fs unk h1 hfind, fieldStep_map S fast fuel hty hmap _ h2,
      loopE S fast (S.md i) sub hsub fuel _ [] _ (by omega) (at_start _ _) rfl, NRec.applyN_map]
    cases foldE S (S.md i) sub (initFields (S.md i)) <;> rfl

theorem loopE (S : Schema) (fast : Bool) (emd : MD) : ∀ (rs : List NRec), OKsE S emd rs →
    ∀ (fuel : Nat) (d : Dec) (pre : Bytes) (efs : List F), costs rs + 1 ≤ fuel →
      d.At pre (wiresN rs) → d.fast = fast →
      entryLoop S fast fuel emd d efs = foldE S emd rs efs
  | [], _, fuel, d, pre, efs, hf, hAt, _ => by
    obtain ⟨f, rfl⟩ : ∃ f, fuel = f + 1 := ⟨fuel - 1, by omega⟩
    exact entryLoop_end S fast f emd efs hAt
  | r :: rs, hok, fuel, d, pre, efs, hf, hAt, hfast => by
    rw [wiresN_cons] at hAt
    have hcpos := r.cost_pos
    rw [costs_cons] at hf
    obtain ⟨f, rfl⟩ : ∃ f, fuel = f + 2 := ⟨fuel - 2, by omega⟩
    obtain ⟨d', hAt', hfast', hstep⟩ := stepE S fast emd r hok.1 f d pre (wiresN rs) efs hAt hfast (by omega)
    rw [hstep, foldE_cons]
    cases ha : r.applyE S efs with
    | ok efs' => exact loopE S fast emd rs hok.2 (f + 1) d' (pre ++ r.wire) efs' (by omega) hAt' hfast'
    | err => rfl
    | panic => rfl

theorem stepE (S : Schema) (fast : Bool) (emd : MD) : ∀ (r : NRec), r.OKE S emd →
    ∀ (fuel : Nat) (d : Dec) (pre post : Bytes) (efs : List F),
      d.At pre (r.wire ++ post) → d.fast = fast → r.cost ≤ fuel + 1 →
      ∃ d', d'.At (pre ++ r.wire) post ∧ d'.fast = fast ∧
        entryLoop S fast (fuel + 2) emd d efs =
          (match r.applyE S efs with
           | .ok efs' => entryLoop S fast (fuel + 1) emd d' efs'
           | .err => .err
           | .panic => .panic)
  | .flat w, hok, fuel, d, pre, post, efs, hAt, hfast, _ =>
    entryLoop_step S fast emd w hok fuel d pre post efs hAt hfast
  | .msg idx fd j sub, hok, fuel, d, pre, post, efs, hAt, hfast, hcost => by
    obtain ⟨hfind, hty, htag, hnm, hnl, hlen, hsub⟩ := hok
    change 3 + costs sub ≤ fuel + 1 at hcost
    obtain ⟨d1, d2, h1, h2, hAt2, hf2⟩ := lenRec_at (body := wiresN sub) htag hlen hAt
    refine ⟨d2, hAt2, hf2.trans hfast, ?_⟩
    rw [entryLoop_field S _ efs h1 hfind, fieldStep_msg S fast fuel hty hnm _ h2,
      unmarshalMsg_of_loop S fast (S.md j) sub hsub (loopN S fast (S.md j) sub hsub) fuel (by omega), NRec.applyE_msg]
    cases decodeMsgN S (S.md j) sub with
    | ok r => cases hc : fd.card <;> first | exact absurd hc hnl | rfl
    | err => rfl
    | panic => rfl
  | .map _ _ _ _, hok, _, _, _, _, _, _, _, _ => hok.elim
end

/-- `3 + c` steps pay for a length-delimited record whose payload costs `c` -/
theorem cost_lenRec {c : Nat} (num : Nat) {body : Bytes} (h : c ≤ 3 * body.length) :
    3 + c ≤ 3 * (encTag num wtLen ++ encVarint body.length ++ body).length := by
  have h1 := encVarint_length_pos (keyOf num wtLen)
  have h2 := encVarint_length_pos body.length
  simp only [List.length_append, encTag]
  omega

mutual
theorem NRec.cost_le (S : Schema) (md : MD) : ∀ (r : NRec), r.OK S md → r.cost ≤ 3 * r.wire.length
  | .flat w, h => by
    have := List.length_pos_iff.mpr (NRec.wire_ne_nil S md (.flat w) h)
    show 1 ≤ 3 * (NRec.flat w).wire.length
    omega
  | .msg idx fd i sub, h => cost_lenRec fd.num (costs_le S (S.md i) sub h.2.2.2.2.2)
  | .map idx fd i sub, h => cost_lenRec fd.num (costsE_le S (S.md i) sub h.2.2.2.2.2)
theorem costs_le (S : Schema) (md : MD) : ∀ (rs : List NRec), OKs S md rs → costs rs ≤ 3 * (wiresN rs).length
  | [], _ => Nat.zero_le _
  | r :: rs, h => by
    have h1 := NRec.cost_le S md r h.1
    have h2 := costs_le S md rs h.2
    rw [costs_cons, wiresN_cons, List.length_append]
    omega
theorem NRec.costE_le (S : Schema) (emd : MD) : ∀ (r : NRec), r.OKE S emd → r.cost ≤ 3 * r.wire.length
  | .flat w, h => by
    have : w.wire ≠ [] := by
      cases w with
      | scalar idx fd k v => exact scalarOp_wire_ne_nil k fd.num v
      | packed _ _ _ _ => exact h.elim
      | unknown r => exact Rec.wire_ne_nil r
    have := List.length_pos_iff.mpr this
    show 1 ≤ 3 * w.wire.length
    omega
  | .msg idx fd j sub, h => cost_lenRec fd.num (costs_le S (S.md j) sub h.2.2.2.2.2.2)
  | .map _ _ _ _, h => h.elim
theorem costsE_le (S : Schema) (emd : MD) : ∀ (rs : List NRec), OKsE S emd rs → costs rs ≤ 3 * (wiresN rs).length
  | [], _ => Nat.zero_le _
  | r :: rs, h => by
    have h1 := NRec.costE_le S emd r h.1
    have h2 := costsE_le S emd rs h.2
    rw [costs_cons, wiresN_cons, List.length_append]
    omega
end

/-- **generated `Unmarshal` on any record sequence with nested messages** -/
theorem unmarshal_nested (S : Schema) (fast : Bool) (md : MD) (rs : List NRec) (hok : OKs S md rs) :
    unmarshal S fast md (wiresN rs) = decodeMsgN S md rs :=
  unmarshalMsg_of_loop S fast md rs hok (loopN S fast md rs hok) _ (by have := costs_le S md rs hok; omega)

theorem unmarshal_nil (S : Schema) (fast : Bool) (md : MD) :
    unmarshal S fast md [] = if hasRequired md then .err else .ok (initFields md, []) :=
  unmarshal_nested S fast md [] trivial

/-- **the generated decoder computes the fold of the reference rule over any sequence of flat records** -/
theorem loop_records (S : Schema) (fast : Bool) (md : MD) (rs : List WRec) (hok : ∀ r ∈ rs, r.OK md) :
    ∀ (fuel : Nat) (d : Dec) (pre : Bytes) (fs : List F) (unk : Bytes), rs.length + 1 ≤ fuel →
      d.At pre (wiresW rs) → d.fast = fast →
      unmarshalLoop S fast fuel md d fs unk = .ok (rs.foldl (WRec.apply md) (fs, unk)) := by
  intro fuel d pre fs unk hf hAt hfast
  rw [← wiresN_flat] at hAt
  rw [loopN S fast md _ (OKs_flat S md rs hok) fuel d pre fs unk (by rw [costs_flat]; exact hf) hAt hfast, foldN_flat]

/-- **generated `Unmarshal` on any sequence of well-formed records** (scalar fields of the message type
    in any order, split / packed / repeated occurrences, unknown fields anywhere): the fold of the
    reference rule, then the required-field check -/
theorem unmarshal_records (S : Schema) (fast : Bool) (md : MD) (rs : List WRec) (hok : ∀ r ∈ rs, r.OK md) :
    unmarshal S fast md (wiresW rs) =
      (if requiredMissing md (rs.foldl (WRec.apply md) (initFields md, [])).1 then .err
       else .ok (rs.foldl (WRec.apply md) (initFields md, []))) := by
  rw [← wiresN_flat, unmarshal_nested S fast md _ (OKs_flat S md rs hok), decodeMsgN_eq, foldN_flat]

end Csproto.Gen
