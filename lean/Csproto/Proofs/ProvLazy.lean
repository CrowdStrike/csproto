import Csproto.Model.ProvLazy
import Csproto.Proofs.Prov
/-
  lazyproto with provenance: reading the recorded windows against the decode buffer gives exactly the
  field data of the value model (`decodeIntoLoop`); hence a safe-mode result — whose windows refer to a
  private clone — answers every accessor call the same way whatever happens to the caller's buffer.
-/
namespace Csproto.Prov
open Csproto

theorem read_isEmpty (mem : Bytes) (w : WFD) : (w.read mem).data.isEmpty = w.data.isEmpty := by
  simp [WFD.read]

theorem read_snoc (mem : Bytes) (w : WFD) (wt : Nat) (win : Nat × Nat) :
    WFD.read mem { wt := wt, data := w.data ++ [win] } =
      { wt := wt, data := (w.read mem).data ++ [(mem.drop win.1).take win.2] } := by
  simp [WFD.read]

theorem window_drop (mem : Bytes) (base : Nat) (d : Dec) (hs : Sync mem base d) (s l sz : Nat) (hfit : s + l ≤ d.p.length) :
    ((d.p.drop s).take l).drop sz = (mem.drop (base + s + sz)).take (l - sz) := by
  rw [hs.window hfit, List.drop_take, List.drop_drop]

theorem erase_decodeIntoLoop (flat : List Nat) (mem : Bytes) : ∀ (fuel base : Nat) (d : Dec) (fds : List WFD),
    Sync mem base d →
    (decodeIntoLoopW flat fuel base d fds).map (List.map (WFD.read mem)) =
      decodeIntoLoop flat fuel d (fds.map (WFD.read mem)) := by
  intro fuel
  induction fuel with
  | zero => intro base d fds _; rfl
  | succ fuel ih =>
    intro base d fds hs
    rw [decodeIntoLoopW, decodeIntoLoop]
    by_cases hc : d.off < d.len
    · rw [if_neg (not_not_intro hc), if_neg (not_not_intro hc)]
      rcases tag_cases d with ⟨d1, tag, wt, ht, hsame1⟩ | ht | ht <;> rw [ht]
      · have hs1 := hs.same hsame1
        dsimp only
        rw [Dec.step_skip]
        cases idxOf? flat tag with
        | none =>
          dsimp only
          rcases skipWin_cases d1 tag wt with ⟨d2, s, l, hw, ho, hsame, _⟩ | ⟨hw, ho⟩ | ⟨hw, ho⟩ <;> rw [hw, ho]
          · exact ih base d2 fds (hs1.same hsame)
          · rfl
          · rfl
        | some i =>
          dsimp only
          rw [List.getElem?_map]
          cases fds[i]? with
          | none => rfl
          | some fd =>
            dsimp only [Option.map_some]
            rw [read_isEmpty, show (fd.read mem).wt = fd.wt from rfl]
            by_cases hcf : ¬ fd.data.isEmpty = true ∧ fd.wt ≠ wt
            · rw [if_pos hcf, if_pos hcf]; rfl
            · rw [if_neg hcf, if_neg hcf]
              by_cases hv : wt = wtVarint ∨ wt = wtFixed32 ∨ wt = wtFixed64
              · rw [if_pos hv, if_pos hv]
                rcases skipWin_cases d1 tag wt with ⟨d2, s, l, hw, ho, hsame, hfit, hoff, _, hle⟩ | ⟨hw, ho⟩ | ⟨hw, ho⟩ <;>
                  rw [hw, ho]
                · have hfit' : d1.off + (d2.off - d1.off) ≤ d1.p.length := by omega
                  dsimp only [withAlloc]
                  rw [hs1.window hfit', ← read_snoc mem fd wt (base + d1.off, d2.off - d1.off), ← List.map_set]
                  exact ih base d2 _ (hs1.same hsame)
                · rfl
                · rfl
              · rw [if_neg hv, if_neg hv]
                by_cases hl : wt = wtLen
                · rw [if_pos hl, if_pos hl, show d1.step .bytes = withAlloc d1.bytesOp 0 from rfl]
                  rcases bytesWin_cases d1 with ⟨d2, s, l, hw, ho, hsame, hfit, _⟩ | ⟨hw, ho⟩ | ⟨hw, ho⟩ <;> rw [hw, ho]
                  · dsimp only [withAlloc]
                    rw [hs1.window hfit, ← read_snoc mem fd wt (base + s, l), ← List.map_set]
                    exact ih base d2 _ (hs1.same hsame)
                  · rfl
                  · rfl
                · rw [if_neg hl, if_neg hl]; rfl
      · rfl
      · rfl
    · rw [if_pos hc, if_pos hc]; rfl

end Csproto.Prov
