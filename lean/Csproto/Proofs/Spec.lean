import Csproto.Spec.WireSpec
import Csproto.Proofs.Wire
/-
  The encoder's varint is the canonical varint of the independent specification, and the only one; the
  specification's little-endian value, two's complement, zig-zag and key are the model's.
-/
namespace Csproto
open Spec

theorem contOK_cons (b : UInt8) {bs : Bytes} (h : bs ≠ []) : contOK (b :: bs) = (decide (b.toNat ≥ 128) && contOK bs) := by
  cases bs with
  | nil => exact absurd rfl h
  | cons _ _ => rfl

theorem lastGroupNonZero_cons (b : UInt8) {bs : Bytes} (h : bs ≠ []) : lastGroupNonZero (b :: bs) = lastGroupNonZero bs := by
  cases bs with
  | nil => exact absurd rfl h
  | cons _ _ => rfl

theorem varintValue_encVarint (v : Nat) : varintValue (encVarint v) = v := by
  fun_induction encVarint v with
  | case1 v h => rw [varintValue, varintValue, UInt8.toNat_ofNat_of_lt' (Nat.lt_trans h (by decide)), Nat.mod_eq_of_lt h]; rfl
  | case2 v h ih =>
    rw [varintValue, ih, contByte_toNat, Nat.add_mod_right, Nat.mod_mod, Nat.mod_add_div]

theorem contOK_encVarint (v : Nat) : contOK (encVarint v) = true := by
  fun_induction encVarint v with
  | case1 v h => rw [contOK, UInt8.toNat_ofNat_of_lt' (Nat.lt_trans h (by decide))]; exact decide_eq_true h
  | case2 v h ih =>
    rw [contOK_cons _ (encVarint_ne_nil _), ih, Bool.and_true, contByte_toNat]
    exact decide_eq_true (Nat.le_add_left ..)

theorem lastGroupNonZero_encVarint (v : Nat) (hv : 0 < v) : lastGroupNonZero (encVarint v) = true := by
  fun_induction encVarint v with
  | case1 v h =>
    rw [lastGroupNonZero, UInt8.toNat_ofNat_of_lt' (Nat.lt_trans h (by decide)), Nat.mod_eq_of_lt h]
    exact decide_eq_true (Nat.ne_of_gt hv)
  | case2 v h ih => rw [lastGroupNonZero_cons _ (encVarint_ne_nil _), ih (Nat.div_pos (Nat.le_of_not_lt h) (by decide))]

theorem canon_encVarint (v : Nat) : CanonVarint (encVarint v) v := by
  refine ⟨contOK_encVarint v, ?_, varintValue_encVarint v⟩
  by_cases h : v < 128
  · left; rw [encVarint_small h]; rfl
  · right; exact lastGroupNonZero_encVarint v (by omega)

theorem varintValue_pos {bs : Bytes} (h : lastGroupNonZero bs = true) : 0 < varintValue bs := by
  induction bs with
  | nil => cases h
  | cons b bs ih =>
    rw [varintValue]
    by_cases hbs : bs = []
    · subst hbs
      exact Nat.add_pos_left (Nat.pos_of_ne_zero (of_decide_eq_true h)) _
    · rw [lastGroupNonZero_cons b hbs] at h
      exact Nat.add_pos_right _ (Nat.mul_pos (by decide) (ih h))

theorem canon_eq_encVarint {a : Bytes} {v : Nat} (h : CanonVarint a v) : a = encVarint v := by
  induction a generalizing v with
  | nil => exact absurd h.1 (by simp [contOK])
  | cons x as ih =>
    obtain ⟨hc, hm, hv⟩ := h
    have hx := x.toNat_lt
    cases as with
    | nil =>
      have hlt : x.toNat < 128 := by simpa [contOK] using hc
      have hxv : v = x.toNat := by rw [← hv]; exact Nat.mod_eq_of_lt hlt
      rw [hxv, encVarint_small hlt, UInt8.ofNat_toNat]
    | cons w ws =>
      have hx' : x.toNat ≥ 128 ∧ contOK (w :: ws) = true := by simpa [contOK] using hc
      have hl : lastGroupNonZero (w :: ws) = true := hm.resolve_left (by simp)
      -- the groups behind `x` denote a positive number, so `v ≥ 128` and `x`, `v / 128` are determined
      have hpos := varintValue_pos hl
      subst hv
      show x :: w :: ws = encVarint (x.toNat % 128 + 128 * varintValue (w :: ws))
      have hg : x.toNat % 128 < 128 := Nat.mod_lt _ (by decide)
      have hr : (x.toNat % 128 + 128 * varintValue (w :: ws)) % 128 + 128 = x.toNat := by
        rw [Nat.add_mul_mod_self_left, Nat.mod_mod]; omega
      have hq : (x.toNat % 128 + 128 * varintValue (w :: ws)) / 128 = varintValue (w :: ws) := by
        rw [Nat.add_mul_div_left _ _ (by decide), Nat.div_eq_of_lt hg, Nat.zero_add]
      rw [encVarint_big (Nat.not_lt.mpr (Nat.le_trans (Nat.le_mul_of_pos_right 128 hpos) (Nat.le_add_left ..))),
        hr, hq, ← ih ⟨hx'.2, Or.inr hl, rfl⟩, UInt8.ofNat_toNat]

/-- **canonical varints are unique**: the specification determines the bytes -/
theorem canon_unique {a b : Bytes} {v : Nat} (ha : CanonVarint a v) (hb : CanonVarint b v) : a = b :=
  (canon_eq_encVarint ha).trans (canon_eq_encVarint hb).symm

theorem leValue_eq_fromLE (bs : Bytes) : leValue bs = fromLE bs := by
  induction bs with
  | nil => rfl
  | cons b bs ih => rw [leValue, fromLE, ih]

theorem leValue_leBytes (n v : Nat) : leValue (leBytes n v) = v % 256 ^ n := by
  rw [leValue_eq_fromLE, fromLE_leBytes]

theorem twos64_eq_toU64 (i : Int) (h : InI64 i) : twos64 i = toU64 i := by
  unfold InI64 two63 at h
  unfold twos64 toU64 two64
  by_cases h0 : 0 ≤ i
  · rw [if_pos h0, Int.emod_eq_of_lt h0 (by omega)]
  · rw [if_neg h0, emod_of_neg (by omega) (by omega)]; rfl

theorem zz_eq_zigzag (i : Int) : zz i = zigzag i := rfl

theorem key_eq_keyOf {tag wt : Nat} (ht : tag ≤ maxTagValue) (hw : wt < 8) : key tag wt = keyOf tag wt :=
  (keyOf_eq ht hw).symm

end Csproto
