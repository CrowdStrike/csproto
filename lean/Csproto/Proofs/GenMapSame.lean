import Csproto.Proofs.GenMapRoundtrip
/-
  Order independence at ANY depth: `SameFs S md fs gs` — `fs` and `gs` are the same Go value of type `md`,
  except that the entries of map fields (at the top level, inside nested / repeated messages, inside the
  message values of maps, …) may be listed in a different order.  Normalisation (`canonFs`, which is what the
  round trip computes) preserves the relation, so two iteration orders of the same message decode to the same
  message in this sense.
-/
namespace Csproto.Gen
open Csproto

mutual
inductive SameFs (S : Schema) : MD → List F → List F → Prop
  | refl (md : MD) (fs : List F) : SameFs S md fs fs
  | cons {fd : FD} {md : MD} {f g : F} {fs gs : List F} :
      SameF S fd f g → SameFs S md fs gs → SameFs S (fd :: md) (f :: fs) (g :: gs)
inductive SameF (S : Schema) : FD → F → F → Prop
  | refl (fd : FD) (f : F) : SameF S fd f f
  | one {fd : FD} {i : Nat} {v w : V} : fd.ty = .msg i → SameV S (S.md i) v w → SameF S fd (.one v) (.one w)
  /-- a repeated message field: element by element, in the same order -/
  | list {fd : FD} {i : Nat} {vs ws : List V} : fd.ty = .msg i → SameVs S (S.md i) vs ws →
      SameF S fd (.many vs) (.many ws)
  /-- a map field: the entries in any order -/
  | map {fd : FD} {i : Nat} {vs ws : List V} : fd.ty = .msg i → fd.card = .map → PermVs S (S.md i) vs ws →
      SameF S fd (.many vs) (.many ws)
inductive SameV (S : Schema) : MD → V → V → Prop
  | refl (md : MD) (v : V) : SameV S md v v
  | msg {md : MD} {fs gs : List F} (u : Bytes) : SameFs S md fs gs → SameV S md (.msg fs u) (.msg gs u)
inductive SameVs (S : Schema) : MD → List V → List V → Prop
  | nil (md : MD) : SameVs S md [] []
  | cons {md : MD} {v w : V} {vs ws : List V} : SameV S md v w → SameVs S md vs ws → SameVs S md (v :: vs) (w :: ws)
/-- a permutation, up to `SameV` on the elements -/
inductive PermVs (S : Schema) : MD → List V → List V → Prop
  | nil (md : MD) : PermVs S md [] []
  | cons {md : MD} {v w : V} {vs ws : List V} : SameV S md v w → PermVs S md vs ws → PermVs S md (v :: vs) (w :: ws)
  | swap (md : MD) (a b : V) (l : List V) : PermVs S md (a :: b :: l) (b :: a :: l)
  | trans {md : MD} {a b c : List V} : PermVs S md a b → PermVs S md b c → PermVs S md a c
end

theorem PermVs.of_perm (S : Schema) (md : MD) {vs ws : List V} (h : vs.Perm ws) : PermVs S md vs ws := by
  induction h with
  | nil => exact .nil _
  | cons x _ ih => exact .cons (.refl _ _) ih
  | swap x y l => exact .swap _ _ _ _
  | trans _ _ ih1 ih2 => exact .trans ih1 ih2

theorem PermVs.refl (S : Schema) (md : MD) (vs : List V) : PermVs S md vs vs := .of_perm S md (.refl vs)

/-- whether the value of an entry is the nil pointer is read off its second field -/
theorem valUnset_snd (a b : F) {r s : List F} (u : Bytes) (h : r.head? = s.head?) :
    valUnset (.msg (a :: r) u) = valUnset (.msg (b :: s) u) := by
  match r, s, h with
  | [], [], _ => rfl
  | f :: _, _ :: _, h => cases (Option.some.inj h); cases f <;> rfl

/-- related entries hold a nil pointer together: both are written or both are passed over -/
theorem SameV.nilEntry_eq {S : Schema} {md emd : MD} {v w : V} (h : SameV S md v w) : nilEntry emd v = nilEntry emd w := by
  suffices valUnset v = valUnset w by unfold nilEntry; rw [this]
  cases h with
  | refl => rfl
  | msg u hfs =>
    cases hfs with
    | refl => rfl
    | cons _ hfs =>
      cases hfs with
      | refl => exact valUnset_snd _ _ u rfl
      | cons hf _ => cases hf <;> first | rfl | exact valUnset_snd _ _ u rfl

/-- heads that hold a nil pointer together are both normalised or both dropped: a relation between the normalised
    tails that survives consing the normalised heads holds of the normalised lists -/
theorem canonVs_cons_cons (S : Schema) {md : MD} {sk : Bool} {v w : V} {vs ws : List V} {R : List V → List V → Prop}
    (hn : nilEntry md v = nilEntry md w) (ih : R (canonVs S md sk vs) (canonVs S md sk ws))
    (hcons : R (canonV S md v :: canonVs S md sk vs) (canonV S md w :: canonVs S md sk ws)) :
    R (canonVs S md sk (v :: vs)) (canonVs S md sk (w :: ws)) := by
  cases hw : (sk && nilEntry md w)
  · rw [canonVs_live S _ (hn ▸ hw), canonVs_live S _ hw]; exact hcons
  · rw [canonVs_skip S _ (hn ▸ hw), canonVs_skip S _ hw]; exact ih

mutual
theorem canon_sameFs (S : Schema) : ∀ {md : MD} {fs gs : List F}, SameFs S md fs gs →
    SameFs S md (canonFs S md fs) (canonFs S md gs)
  | _, _, _, .refl _ _ => .refl _ _
  | _, _, _, .cons hf hfs => .cons (canon_sameF S hf) (canon_sameFs S hfs)
theorem canon_sameF (S : Schema) : ∀ {fd : FD} {f g : F}, SameF S fd f g → SameF S fd (canonF S fd f) (canonF S fd g)
  | _, _, _, .refl _ _ => .refl _ _
  | ⟨_, _, _⟩, _, _, .one hty hv => by cases hty; exact .one rfl (canon_sameV S hv)
  | ⟨_, _, _⟩, _, _, .list hty hvs => by cases hty; exact .list rfl (canon_sameVs S _ hvs)
  | ⟨_, _, _⟩, _, _, .map hty hm hp => by cases hty; exact .map rfl hm (canon_permVs S _ hp)
theorem canon_sameV (S : Schema) : ∀ {md : MD} {v w : V}, SameV S md v w → SameV S md (canonV S md v) (canonV S md w)
  | _, _, _, .refl _ _ => .refl _ _
  | _, _, _, .msg _ h => .msg [] (canon_sameFs S h)
theorem canon_sameVs (S : Schema) (sk : Bool) : ∀ {md : MD} {vs ws : List V}, SameVs S md vs ws →
    SameVs S md (canonVs S md sk vs) (canonVs S md sk ws)
  | _, _, _, .nil _ => .nil _
  | _, _, _, .cons hv hvs =>
    canonVs_cons_cons S hv.nilEntry_eq (canon_sameVs S sk hvs) (.cons (canon_sameV S hv) (canon_sameVs S sk hvs))
theorem canon_permVs (S : Schema) (sk : Bool) : ∀ {md : MD} {vs ws : List V}, PermVs S md vs ws →
    PermVs S md (canonVs S md sk vs) (canonVs S md sk ws)
  | _, _, _, .nil _ => .nil _
  | _, _, _, .cons hv hvs =>
    canonVs_cons_cons S hv.nilEntry_eq (canon_permVs S sk hvs) (.cons (canon_sameV S hv) (canon_permVs S sk hvs))
  | md, _, _, .swap _ a b l => by
    rw [canonVs_eq_map, canonVs_eq_map]
    exact .of_perm S md (((List.Perm.swap b a l).filter _).map _)
  | _, _, _, .trans h1 h2 => .trans (canon_permVs S sk h1) (canon_permVs S sk h2)
end

/-- order independence of the round trip, at any depth: if `fs` and `gs` are the same message up to the
    order of map entries anywhere in the value tree, then so are `Unmarshal (Marshal fs)` and
    `Unmarshal (Marshal gs)` -/
theorem roundtrip_same (S : Schema) (hS : SchemaOKM S) (fast : Bool) (i : Nat) (fs gs : List F)
    (opsF opsG : List EncOp) (hsame : SameFs S (S.md i) fs gs)
    (hwfF : WFsM S (S.md i) fs) (hexF : Excl (S.md i) fs) (hokF : OKFields S (S.md i) fs)
    (hoF : opsFields S (S.md i) fs = .ok opsF)
    (hwfG : WFsM S (S.md i) gs) (hexG : Excl (S.md i) gs) (hokG : OKFields S (S.md i) gs)
    (hoG : opsFields S (S.md i) gs = .ok opsG) :
    ∃ d1 d2, unmarshal S fast (S.md i) (wiresOf opsF) = .ok (d1, []) ∧
      unmarshal S fast (S.md i) (wiresOf opsG) = .ok (d2, []) ∧ SameFs S (S.md i) d1 d2 :=
  ⟨_, _, roundtrip_map_known S hS fast i fs opsF hwfF hexF hokF hoF,
    roundtrip_map_known S hS fast i gs opsG hwfG hexG hokG hoG, canon_sameFs S hsame⟩

end Csproto.Gen
