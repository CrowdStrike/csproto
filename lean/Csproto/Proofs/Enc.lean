import Csproto.Model.Enc
import Csproto.Proofs.Wire
/-
  A call of the Encoder model that has room appends exactly its wire bytes.
-/
namespace Csproto

theorem writeAt_length {buf bs : Bytes} {off : Nat} (h : off + bs.length ≤ buf.length) :
    (writeAt buf off bs).length = buf.length := by
  unfold writeAt
  simp only [List.length_append, List.length_take, List.length_drop]
  omega

theorem writeAt_take {buf bs : Bytes} {off : Nat} (h : off + bs.length ≤ buf.length) :
    (writeAt buf off bs).take (off + bs.length) = buf.take off ++ bs := by
  unfold writeAt
  exact List.take_left' (by simp; omega)

def Enc.Room (e : Enc) (n : Nat) : Prop := e.off + n ≤ e.cap

/-- what a successful, in-bounds write looks like -/
structure Enc.Appended (e e' : Enc) (bs : Bytes) : Prop where
  cap : e'.cap = e.cap
  off : e'.off = e.off + bs.length
  written : e'.written = e.written ++ bs

theorem Enc.Appended.refl (e : Enc) : Enc.Appended e e [] := ⟨rfl, by simp, by simp⟩

theorem Enc.Appended.trans {e1 e2 e3 : Enc} {a b : Bytes}
    (h1 : Enc.Appended e1 e2 a) (h2 : Enc.Appended e2 e3 b) : Enc.Appended e1 e3 (a ++ b) :=
  ⟨h2.cap.trans h1.cap, by rw [h2.off, h1.off]; simp; omega, by rw [h2.written, h1.written]; simp⟩

theorem Enc.Room.mono {e : Enc} {m n : Nat} (h : e.Room n) (hmn : m ≤ n) : e.Room m :=
  Nat.le_trans (Nat.add_le_add_left hmn _) h

theorem Enc.Appended.room {e e' : Enc} {a : Bytes} {n : Nat} (h : Enc.Appended e e' a) (hr : e.Room (a.length + n)) :
    e'.Room n := by
  unfold Enc.Room at *
  rw [h.off, h.cap, Nat.add_assoc]
  exact hr

theorem Res.bind_assoc {α β γ} (r : Res α) (f : α → Res β) (g : β → Res γ) :
    (r >>= f >>= g) = (r >>= fun a => f a >>= g) := by
  cases r <;> rfl

theorem Enc.store_room (e : Enc) (bs : Bytes) (h : e.Room bs.length) :
    ∃ e', e.store bs = .ok e' ∧ Enc.Appended e e' bs := by
  unfold Enc.Room Enc.cap at h
  refine ⟨{ buf := writeAt e.buf e.off bs, off := e.off + bs.length }, ?_, ?_, rfl, ?_⟩
  · simp [Enc.store, Enc.cap, h]
  · simp [Enc.cap, writeAt_length h]
  · simp only [Enc.written]; exact writeAt_take h

theorem Enc.copy_room (e : Enc) (bs : Bytes) (h : e.Room bs.length) :
    ∃ e', e.copy bs = .ok e' ∧ Enc.Appended e e' bs := by
  unfold Enc.Room Enc.cap at h
  have hle : e.off ≤ e.buf.length := by omega
  have htake : bs.take (e.buf.length - e.off) = bs := List.take_of_length_le (by omega)
  refine ⟨{ buf := writeAt e.buf e.off bs, off := e.off + bs.length }, ?_, ?_, rfl, ?_⟩
  · simp [Enc.copy, Enc.copyAdv, Enc.cap, hle, htake]
  · simp [Enc.cap, writeAt_length h]
  · simp only [Enc.written]; exact writeAt_take h

theorem Enc.store2_room (e : Enc) (a b : Bytes) (h : e.Room (a.length + b.length)) :
    ∃ e2, (e.store a >>= fun e => e.store b) = .ok e2 ∧ Enc.Appended e e2 (a ++ b) := by
  obtain ⟨e1, h1, a1⟩ := e.store_room a (h.mono (Nat.le_add_right ..))
  obtain ⟨e2, h2, a2⟩ := e1.store_room b (a1.room h)
  exact ⟨e2, by rw [h1, Res.bind_ok, h2], a1.trans a2⟩

theorem ofRes_ok {e' : Enc} {r : Res Enc} (h : r = .ok e') : EncOut.ofRes r = .ok e' := by
  subst h; rfl

/-- the scalar writers: one store -/
theorem Enc.ofRes_store_room (e : Enc) (bs : Bytes) (h : e.Room bs.length) :
    ∃ e', EncOut.ofRes (e.store bs) = .ok e' ∧ Enc.Appended e e' bs := by
  obtain ⟨e1, h1, a1⟩ := e.store_room bs h
  exact ⟨e1, ofRes_ok h1, a1⟩

/-- the packed writers: nothing at all for an empty list, else one store -/
theorem Enc.skip_or_store_room (e : Enc) (c : Bool) (bs : Bytes) (hc : c = true → bs = []) (h : e.Room bs.length) :
    ∃ e', (if c then EncOut.ok e else EncOut.ofRes (e.store bs)) = .ok e' ∧ Enc.Appended e e' bs := by
  cases c with
  | true => exact ⟨e, rfl, hc rfl ▸ Enc.Appended.refl e⟩
  | false => exact e.ofRes_store_room bs h

/-- an op is *plain* when it is not `EncodeNested` (whose behaviour depends on the nested object) -/
def EncOp.plain : EncOp → Bool
  | .nested .. => false
  | _ => true

/-- **A call with room appends exactly its wire bytes** (no panic, no truncation). -/
theorem Enc.step_room (e : Enc) (op : EncOp) (hp : op.plain = true) (h : e.Room op.wire.length) :
    ∃ e', e.step op = .ok e' ∧ Enc.Appended e e' op.wire := by
  cases op with
  | nested => exact absurd hp nofun
  | bytes t v =>
    simp only [EncOp.wire, List.length_append] at h
    obtain ⟨e2, h2, a2⟩ := e.store2_room (encTag t wtLen) (encVarint v.length) (h.mono (Nat.le_add_right ..))
    obtain ⟨e3, h3, a3⟩ := e2.copy_room v (a2.room (by rw [List.length_append]; exact h))
    refine ⟨e3, ofRes_ok ?_, a2.trans a3⟩
    show (e.store (encTag t wtLen) >>= fun e => e.store (encVarint v.length) >>= fun e => e.copy v) = _
    rw [← Res.bind_assoc, h2, Res.bind_ok, h3]
  | raw d =>
    cases d with
    | nil => exact ⟨e, rfl, Enc.Appended.refl e⟩
    | cons x xs =>
      obtain ⟨e1, h1, a1⟩ := e.copy_room (x :: xs) h
      exact ⟨e1, ofRes_ok h1, a1⟩
  | packedBool t vs | packedVarint t vs | packedZigzag32 t vs | packedZigzag64 t vs | packedFixed32 t vs
  | packedFixed64 t vs => exact e.skip_or_store_room vs.isEmpty _ (fun hc => if_pos hc) h
  | bool | varint | zigzag32 | zigzag64 | fixed32 | fixed64 | mapHeader => exact e.ofRes_store_room _ h

theorem Enc.new_written (n : Nat) : (Enc.new n).written = [] := by simp [Enc.new, Enc.written]
theorem Enc.new_cap (n : Nat) : (Enc.new n).cap = n := by simp [Enc.new, Enc.cap]

theorem Enc.written_full {e : Enc} (h : e.off = e.cap) : e.written = e.buf := by
  unfold Enc.written Enc.cap at *
  rw [h]
  simp

end Csproto
