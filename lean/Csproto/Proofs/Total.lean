import Csproto.Model.Dec
/-
  Totality of the decoder model on arbitrary bytes: the element readers, the scalar methods and the packed
  loop never panic and never leave the buffer.
-/
namespace Csproto

/-- an element reader is *safe*: never panics and never claims more bytes than it was given -/
def ElemOK {α} (elem : Bytes → Res (α × Nat)) : Prop :=
  ∀ s, elem s ≠ .panic ∧ ∀ v n, elem s = .ok (v, n) → n ≤ s.length

def Dec.Inv (d : Dec) : Prop := d.off ≤ d.len

/-- filtering an `ok` into an `err` (range checks) preserves safety -/
theorem ElemOK.filter {α β} {elem : Bytes → Res (α × Nat)} (h : ElemOK elem)
    (g : α → Nat → Res (β × Nat))
    (hg : ∀ v n, g v n = .err ∨ ∃ w, g v n = .ok (w, n)) :
    ElemOK (fun s => match elem s with | .ok (v, n) => g v n | .err => .err | .panic => .panic) := by
  intro s
  have := h s
  dsimp only
  cases he : elem s with
  | ok r =>
    obtain ⟨v, n⟩ := r
    dsimp only
    rcases hg v n with hgv | ⟨w, hgv⟩
    · rw [hgv]; simp
    · rw [hgv]; exact ⟨by simp, fun v' n' h' => by simp at h'; obtain ⟨_, e⟩ := h'; subst e; exact this.2 v n he⟩
  | err => simp
  | panic => exact absurd he this.1

/-- the `if c then .err else .ok (w, n)` shape of every range check -/
theorem guard_shape {β} (c : Prop) [Decidable c] (w : β) (n : Nat) :
    (if c then (.err : Res (β × Nat)) else .ok (w, n)) = .err ∨
      ∃ w', (if c then (.err : Res (β × Nat)) else .ok (w, n)) = .ok (w', n) := by
  by_cases hc : c
  · exact .inl (if_pos hc)
  · exact .inr ⟨w, if_neg hc⟩

theorem ElemOK.of_eq {α} {elem elem' : Bytes → Res (α × Nat)} (h : ElemOK elem) (he : ∀ s, elem' s = elem s) :
    ElemOK elem' := fun s => he s ▸ h s

theorem ElemOK.nz {α} {elem : Bytes → Res (α × Nat)} (h : ElemOK elem) : ElemOK (fun p => nz (elem p)) :=
  (h.filter (fun v n => if n = 0 then .err else .ok (v, n)) fun v n => guard_shape _ v n).of_eq
    fun s => by unfold Csproto.nz; rcases elem s with ⟨v, n⟩ | _ | _ <;> rfl

theorem ElemOK.map {α β} {elem : Bytes → Res (α × Nat)} (h : ElemOK elem) (f : α → β) :
    ElemOK (fun s => (elem s).map fun (v, n) => (f v, n)) :=
  (h.filter (fun v n => .ok (f v, n)) fun v _ => .inr ⟨f v, rfl⟩).of_eq
    fun s => by rcases elem s with ⟨v, n⟩ | _ | _ <;> rfl

theorem decVarintLoop_total (fuel : Nat) : ∀ (shift acc n : Nat) (s : Bytes),
    decVarintLoop fuel shift acc n s ≠ .panic ∧
    ∀ v k, decVarintLoop fuel shift acc n s = .ok (v, k) → n < k ∧ k ≤ n + s.length := by
  induction fuel with
  | zero => intro shift acc n s; exact ⟨nofun, nofun⟩
  | succ fuel ih =>
    intro shift acc n s
    cases s with
    | nil => exact ⟨nofun, nofun⟩
    | cons b bs =>
      rw [decVarintLoop]
      split
      · exact ⟨nofun, fun v k h => by cases h; exact ⟨Nat.lt_succ_self n, Nat.add_le_add_left (Nat.succ_pos _) n⟩⟩
      · have := ih (shift + 7) (acc ||| (b.toNat % 128) <<< shift % two64) (n + 1) bs
        refine ⟨this.1, fun v k h => ?_⟩
        have := this.2 v k h
        rw [List.length_cons]; omega

theorem decodeVarint_total (s : Bytes) :
    decodeVarint s ≠ .panic ∧ ∀ v n, decodeVarint s = .ok (v, n) → 0 < n ∧ n ≤ s.length := by
  cases s with
  | nil => exact ⟨nofun, nofun⟩
  | cons b bs =>
    rw [decodeVarint]
    split
    · exact ⟨nofun, fun v n h => by cases h; exact ⟨Nat.one_pos, Nat.succ_pos _⟩⟩
    · have := decVarintLoop_total 10 0 0 0 (b :: bs)
      exact ⟨this.1, fun v n h => ⟨Nat.zero_lt_of_lt (this.2 v n h).1, Nat.le_trans (this.2 v n h).2 (Nat.le_of_eq (Nat.zero_add _))⟩⟩

theorem decodeVarint_ok : ElemOK decodeVarint :=
  fun s => ⟨(decodeVarint_total s).1, fun v n h => ((decodeVarint_total s).2 v n h).2⟩

theorem decodeVarint_pos {s : Bytes} {v n : Nat} (h : decodeVarint s = .ok (v, n)) : 0 < n :=
  ((decodeVarint_total s).2 v n h).1

theorem elVarint_ok : ElemOK elVarint := decodeVarint_ok.nz

theorem elBool_ok : ElemOK elBool := elVarint_ok.map (fun v => v != 0)

theorem elInt64_ok : ElemOK elInt64 := elVarint_ok.map toI64

theorem elUint32_ok : ElemOK elUint32 :=
  (elVarint_ok.filter (fun v n => if v > 4294967295 then .err else .ok (v, n)) fun v n => guard_shape _ v n).of_eq
    fun s => by unfold elUint32; rcases elVarint s with ⟨v, n⟩ | _ | _ <;> rfl

theorem elInt32_ok : ElemOK elInt32 :=
  (elVarint_ok.filter (fun v n => if toI64 v > 2147483647 ∨ toI64 v < -2147483648 then .err else .ok (toI64 v, n))
    fun v n => guard_shape _ _ n).of_eq
    fun s => by unfold elInt32; rcases elVarint s with ⟨v, n⟩ | _ | _ <;> rfl

/-- `DecodeFixed32` / `DecodeFixed64`: `k` bytes or an error -/
theorem fixed_ok (k : Nat) (f : Bytes → Nat) :
    ElemOK (fun p => if p.length < k then .err else .ok (f p, k)) := by
  intro s
  by_cases h : s.length < k
  · simp [h]
  · simp only [h, if_false]; exact ⟨by simp, fun v n h' => by simp at h'; omega⟩

theorem decodeFixed32_ok : ElemOK decodeFixed32 := fixed_ok 4 _
theorem decodeFixed64_ok : ElemOK decodeFixed64 := fixed_ok 8 _

theorem elFixed32_ok : ElemOK elFixed32 := decodeFixed32_ok.nz
theorem elFixed64_ok : ElemOK elFixed64 := decodeFixed64_ok.nz
theorem elFloat32_ok : ElemOK elFloat32 := elFixed32_ok
theorem elFloat64_ok : ElemOK elFloat64 := elFixed64_ok

theorem decodeZigZag32_ok : ElemOK decodeZigZag32 :=
  (decodeVarint_ok.filter (fun dv n => if n = 0 then .err else .ok (unzigzag (dv % two32), n))
    fun _ n => guard_shape _ _ n).of_eq
    fun s => by unfold decodeZigZag32; rcases decodeVarint s with ⟨v, n⟩ | _ | _ <;> rfl

theorem decodeZigZag64_ok : ElemOK decodeZigZag64 :=
  (decodeVarint_ok.filter (fun dv n => if n = 0 then .err else .ok (unzigzag dv, n)) fun _ n => guard_shape _ _ n).of_eq
    fun s => by unfold decodeZigZag64; rcases decodeVarint s with ⟨v, n⟩ | _ | _ <;> rfl

theorem elSint32_ok : ElemOK elSint32 := decodeZigZag32_ok.nz
theorem elSint64_ok : ElemOK elSint64 := decodeZigZag64_ok.nz

theorem sliceFrom_ok {p : Bytes} {i : Nat} (h : i ≤ p.length) : sliceFrom p i = .ok (p.drop i) := by
  simp [sliceFrom, h]

theorem Dec.scalar_total {α} (d : Dec) (hi : d.Inv) (elem : Bytes → Res (α × Nat)) (mk : α → Item)
    (he : ElemOK elem) :
    d.scalar elem mk = (d, .err) ∨
      ∃ v n, d.off + n ≤ d.len ∧ d.scalar elem mk = ({ d with off := d.off + n }, .ok (mk v)) := by
  unfold Dec.scalar
  by_cases h : d.off ≥ d.len
  · exact .inl (if_pos h)
  · simp only [h, if_false, sliceFrom_ok hi]
    have := he (d.p.drop d.off)
    cases hel : elem (d.p.drop d.off) with
    | ok r =>
      have hn := this.2 r.1 r.2 hel
      rw [List.length_drop] at hn
      exact .inr ⟨r.1, r.2, by unfold Dec.Inv Dec.len at *; omega, rfl⟩
    | err => exact .inl rfl
    | panic => exact absurd hel this.1

theorem Dec.scalar_safe {α} (d : Dec) (hi : d.Inv) (elem : Bytes → Res (α × Nat)) (mk : α → Item)
    (he : ElemOK elem) :
    (d.scalar elem mk).2 ≠ .panic ∧ (d.scalar elem mk).1.Inv ∧ (d.scalar elem mk).1.p = d.p := by
  rcases d.scalar_total hi elem mk he with h | ⟨v, n, hn, h⟩ <;> rw [h]
  · exact ⟨nofun, hi, rfl⟩
  · exact ⟨nofun, hn, rfl⟩

/-- the packed loop, whatever it returns: no panic; the cursor only moves forward and never leaves the
    buffer; on success there are at most as many new cells as bytes consumed, and `nRead` did not
    run past `l` -/
theorem packedLoop_total {α} (elem : Bytes → Res (α × Nat)) (he : ElemOK elem) (p : Bytes) (l : Nat) :
    ∀ (fuel nRead off : Nat) (acc : List α), off ≤ p.length →
      ∀ off' r, packedLoop elem p l fuel nRead off acc = (off', r) →
        r ≠ .panic ∧ off ≤ off' ∧ off' ≤ p.length ∧
        ∀ vs, r = .ok vs → vs.length + off ≤ acc.length + off' ∧ nRead ≤ l := by
  intro fuel
  induction fuel with
  | zero => intro nRead off acc h off' r e; cases e; exact ⟨nofun, Nat.le_refl _, h, nofun⟩
  | succ fuel ih =>
    intro nRead off acc h off' r e
    rw [packedLoop] at e
    by_cases h1 : nRead < l
    · rw [if_pos h1] at e
      by_cases h2 : off ≥ p.length
      · rw [if_pos h2] at e; cases e; exact ⟨nofun, Nat.le_refl _, h, nofun⟩
      · rw [if_neg h2, sliceFrom_ok h] at e
        have hs := he (p.drop off)
        cases hel : elem (p.drop off) with
        | ok x =>
          obtain ⟨v, n⟩ := x
          have hn := hs.2 v n hel
          rw [List.length_drop] at hn
          simp only [hel] at e
          by_cases hn0 : n = 0
          · rw [if_pos hn0] at e; cases e; exact ⟨nofun, Nat.le_refl _, h, nofun⟩
          · rw [if_neg hn0] at e
            have := ih (nRead + n) (off + n) (v :: acc) (Nat.add_le_of_le_sub' h hn) off' r e
            refine ⟨this.1, Nat.le_trans (Nat.le_add_right ..) this.2.1, this.2.2.1, fun vs hvs => ?_⟩
            have := this.2.2.2 vs hvs
            rw [List.length_cons] at this; omega
        | err => simp only [hel] at e; cases e; exact ⟨nofun, Nat.le_refl _, h, nofun⟩
        | panic => exact absurd hel hs.1
    · rw [if_neg h1] at e
      by_cases h3 : nRead ≠ l
      · rw [if_pos h3] at e; cases e; exact ⟨nofun, Nat.le_refl _, h, nofun⟩
      · rw [if_neg h3] at e; cases e
        refine ⟨nofun, Nat.le_refl _, h, fun vs hvs => ?_⟩
        cases hvs; rw [List.length_reverse]; exact ⟨Nat.le_refl _, Nat.le_of_eq (Decidable.not_not.mp h3)⟩

theorem packedLoop_safe {α} (elem : Bytes → Res (α × Nat)) (he : ElemOK elem) (p : Bytes) (l : Nat) :
    ∀ (fuel nRead off : Nat) (acc : List α), off ≤ p.length →
      (packedLoop elem p l fuel nRead off acc).2 ≠ .panic ∧
      off ≤ (packedLoop elem p l fuel nRead off acc).1 ∧
      (packedLoop elem p l fuel nRead off acc).1 ≤ p.length ∧
      ∀ vs, (packedLoop elem p l fuel nRead off acc).2 = .ok vs →
        vs.length + off ≤ acc.length + (packedLoop elem p l fuel nRead off acc).1 ∧ nRead ≤ l :=
  fun fuel nRead off acc h => packedLoop_total elem he p l fuel nRead off acc h _ _ rfl

end Csproto
