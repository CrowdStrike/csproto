import Csproto.Proofs.Dec
import Csproto.Proofs.Skip
/-
  Well-formed top-level records as a reference parser sees them, shared by C13/C14 (lazy decoding)
  and C20 (protodump).
-/
namespace Csproto

inductive Rec where
  | varint (tag v : Nat)
  | fixed32 (tag v : Nat)
  | fixed64 (tag v : Nat)
  | len (tag : Nat) (b : Bytes)
deriving Repr

def Rec.tag : Rec → Nat
  | .varint t _ | .fixed32 t _ | .fixed64 t _ | .len t _ => t

def Rec.wt : Rec → Nat
  | .varint .. => wtVarint | .fixed32 .. => wtFixed32 | .fixed64 .. => wtFixed64 | .len .. => wtLen

def Rec.OK : Rec → Prop
  | .varint t v => 1 ≤ t ∧ t ≤ maxTagValue ∧ v < two64
  | .fixed32 t v => 1 ≤ t ∧ t ≤ maxTagValue ∧ v < two32
  | .fixed64 t v => 1 ≤ t ∧ t ≤ maxTagValue ∧ v < two64
  | .len t b => 1 ≤ t ∧ t ≤ maxTagValue ∧ b.length ≤ maxFieldLen

/-- the raw value bytes a reference parser attributes to the record (what lazyproto records) -/
def Rec.chunk : Rec → Bytes
  | .varint _ v => encVarint v
  | .fixed32 _ v => encFixed32 v
  | .fixed64 _ v => encFixed64 v
  | .len _ b => b

/-- the bytes after the key -/
def Rec.body : Rec → Bytes
  | .len _ b => encVarint b.length ++ b
  | r => r.chunk

def Rec.wire (r : Rec) : Bytes := encTag r.tag r.wt ++ r.body

theorem Rec.tag_ok {r : Rec} (h : r.OK) : 1 ≤ r.tag ∧ r.tag ≤ maxTagValue := by
  cases r <;> exact ⟨h.1, h.2.1⟩

theorem Rec.wt_lt (r : Rec) : r.wt < 8 := by cases r <;> simp [Rec.wt, wtVarint, wtFixed32, wtFixed64, wtLen]

theorem Rec.body_wf {r : Rec} (h : r.OK) : WFPayload r.wt r.body := by
  cases r with
  | varint t v => exact WFPayload.varint v h.2.2
  | fixed32 t v => exact WFPayload.fixed32 _ (by simp [Rec.body, Rec.chunk, encFixed32])
  | fixed64 t v => exact WFPayload.fixed64 _ (by simp [Rec.body, Rec.chunk, encFixed64])
  | len t b => exact WFPayload.len b h.2.2

theorem Rec.wire_ne_nil (r : Rec) : r.wire ≠ [] :=
  List.append_ne_nil_of_left_ne_nil (encTag_ne_nil _ _) _

/-- `DecodeTag` in front of a well-formed record returns its key and stops in front of its body -/
theorem Rec.tag_at {r : Rec} (hok : r.OK) {d : Dec} {pre rest : Bytes} (h : d.At pre (r.wire ++ rest)) :
    d.step .tag = (d.afterTag (encTag r.tag r.wt).length, .ok (.tag r.tag r.wt), 0) ∧
      (d.afterTag (encTag r.tag r.wt).length).At (pre ++ encTag r.tag r.wt) (r.body ++ rest) := by
  unfold Rec.wire at h
  rw [List.append_assoc] at h
  exact ⟨Dec.tag_at h (Rec.tag_ok hok).1 (Rec.tag_ok hok).2 r.wt_lt, h.afterTag⟩

/-- `Skip` behind the key of a well-formed record returns the whole record and stops behind it -/
theorem Rec.skip_at {r : Rec} (hok : r.OK) {d : Dec} {pre rest : Bytes} (h : d.At pre (r.wire ++ rest)) :
    (d.afterTag (encTag r.tag r.wt).length).step (.skip r.tag r.wt) =
      ({ d.afterTag (encTag r.tag r.wt).length with
          off := (d.afterTag (encTag r.tag r.wt).length).off + r.body.length }, .ok (.bytes r.wire), 0) := by
  show withAlloc (Dec.skip _ r.tag r.wt) 0 = _
  rw [Dec.skip_at (Rec.tag_ok hok).1 (Rec.tag_ok hok).2 (Rec.body_wf hok) (Rec.tag_at hok h).2 (fun _ => h.off)]
  rfl

def wiresOf (rs : List Rec) : Bytes := (rs.map Rec.wire).flatten

theorem wiresOf_cons (r : Rec) (rs : List Rec) : wiresOf (r :: rs) = r.wire ++ wiresOf rs := by
  simp [wiresOf]

theorem length_le_wiresOf (rs : List Rec) : rs.length ≤ (wiresOf rs).length :=
  length_le_flatten Rec.wire rs fun r _ => List.length_pos_iff.mpr (Rec.wire_ne_nil r)

end Csproto
