import Csproto.Proofs.GenNested
/-
  Round trip for message types whose fields are scalars (singular with or without presence, required,
  repeated packed or not): what the generated `Marshal` writes is a sequence of well-formed records, and
  the generated `Unmarshal` — equivalently the reference rule, by `unmarshal_records` — turns it back
  into the message (`canonFields`: the Go struct after normalising values to their field width).
-/
namespace Csproto.Gen
open Csproto Csproto.C01

/-- a message type all of whose fields are scalar and none of which is a oneof member, a map, or the key or value of
    a map entry -/
def FlatMD (md : MD) : Prop :=
  ∀ fd ∈ md, (∃ k, fd.ty = .sc k) ∧ (∀ g, fd.card ≠ .oneof g) ∧ fd.card ≠ .map ∧ fd.card ≠ .always

def NoDupNums (md : MD) : Prop := (md.map FD.num).Nodup

theorem findField_base (md : MD) (num base : Nat) :
    findField md num base = (findField md num 0).map fun p => (p.1 + base, p.2) := by
  induction md generalizing base with
  | nil => simp [findField]
  | cons fd md ih =>
    simp only [findField]
    by_cases h : fd.num = num
    · simp [h]
    · simp only [h, if_false]
      rw [ih (base + 1), ih (0 + 1)]
      cases findField md num 0 <;> simp; omega

theorem findField_at (pre : MD) (fd : FD) (suf : MD) (h : NoDupNums (pre ++ fd :: suf)) :
    findField (pre ++ fd :: suf) fd.num 0 = some (pre.length, fd) := by
  induction pre with
  | nil => simp [findField]
  | cons p pre ih =>
    obtain ⟨hp, hnd⟩ := List.nodup_cons.mp h
    have hne : p.num ≠ fd.num := fun e =>
      hp (e ▸ List.mem_map_of_mem (List.mem_append_right _ (List.mem_cons_self ..)))
    simp only [List.cons_append, findField, hne, if_false]
    rw [findField_base, ih hnd]
    simp

def kindOf (fd : FD) : SK :=
  match fd.ty with
  | .sc k => k
  | .msg _ => .bool

/-- the records `Marshal` writes for the field at position `idx` -/
def fieldRecs (idx : Nat) (fd : FD) : F → List WRec
  | .unset => []
  | .one v =>
    match fd.card with
    | .implicit => if implicitPresent (kindOf fd) v then [.scalar idx fd (kindOf fd) v] else []
    | _ => [.scalar idx fd (kindOf fd) v]
  | .many vs =>
    match fd.card with
    | .packed => if vs.isEmpty then [] else [.packed idx fd (kindOf fd) vs]
    | _ => vs.map (.scalar idx fd (kindOf fd))

theorem fieldRecs_one (idx : Nat) (fd : FD) (v : V) :
    fieldRecs idx fd (.one v) =
      if fd.card = .implicit ∧ implicitPresent (kindOf fd) v = false then [] else [.scalar idx fd (kindOf fd) v] := by
  rw [fieldRecs]
  cases fd.card with
  | implicit => cases implicitPresent (kindOf fd) v <;> rfl
  | _ => rfl

theorem fieldRecs_many (idx : Nat) (fd : FD) (vs : List V) :
    fieldRecs idx fd (.many vs) =
      if fd.card = .packed then (if vs.isEmpty then [] else [.packed idx fd (kindOf fd) vs])
      else vs.map (.scalar idx fd (kindOf fd)) := by
  rw [fieldRecs]
  cases fd.card <;> rfl

theorem opsField_recs (S : Schema) (idx : Nat) (fd : FD) (k : SK) (hty : fd.ty = .sc k) (f : F) (ops : List EncOp)
    (ho : opsField S fd f = .ok ops) : wiresOf ops = wiresW (fieldRecs idx fd f) := by
  have hk : kindOf fd = k := by simp [kindOf, hty]
  cases f with
  | unset => cases (opsField_ok_unset ho).2; rfl
  | one v =>
    rw [opsField_one_sc S hty] at ho
    cases ho
    rw [fieldRecs_one, hk]
    split <;> rfl
  | many vs =>
    rw [opsField_many_sc S hty] at ho
    cases ho
    rw [fieldRecs_many, hk]
    split
    · split <;> rfl
    · simp only [wiresOf, wiresW, List.map_map]; rfl

/-- the field after a round trip -/
def canonField (fd : FD) : F → F
  | .unset => initField fd
  | .one v =>
    match fd.card with
    | .implicit => if implicitPresent (kindOf fd) v then .one (decodedV (kindOf fd) v) else initField fd
    | _ => .one (decodedV (kindOf fd) v)
  | .many vs => .many (vs.map (decodedV (kindOf fd)))

theorem canonField_one (fd : FD) (v : V) :
    canonField fd (.one v) =
      if fd.card = .implicit ∧ implicitPresent (kindOf fd) v = false then initField fd
      else .one (decodedV (kindOf fd) v) := by
  rw [canonField]
  cases fd.card with
  | implicit => cases implicitPresent (kindOf fd) v <;> rfl
  | _ => rfl

theorem decodedVs_eq (k : SK) (vs : List V) (hk : k ≠ .string ∧ k ≠ .bytes) :
    decodedVs k vs = vs.map (decodedV k) := by
  cases k
  case string => exact absurd rfl hk.1
  case bytes => exact absurd rfl hk.2
  all_goals exact List.map_map ..

theorem assign_of_not_oneof (md : MD) (fs : List F) (idx : Nat) (fd : FD) (f : F) (h : ∀ g, fd.card ≠ .oneof g) :
    assign md fs idx fd f = fs.set idx f := by
  unfold assign
  cases hc : fd.card <;> first | rfl | exact absurd hc (h _)

/-- `assign` behaves as a plain update on every state that agrees with `fs` away from `idx`
    (true for non-members of a oneof, and for a oneof member whose siblings are all unset) -/
def AssignPlain (md : MD) (fd : FD) (idx : Nat) (fs : List F) : Prop :=
  ∀ (fs' : List F) (x : F), fs'.length = fs.length → (∀ j, j ≠ idx → fs'[j]? = fs[j]?) →
    assign md fs' idx fd x = fs'.set idx x

theorem AssignPlain.of_plain (md : MD) (fd : FD) (idx : Nat) (fs : List F) (h : ∀ g, fd.card ≠ .oneof g) :
    AssignPlain md fd idx fs := fun fs' x _ _ => assign_of_not_oneof md fs' idx fd x h

theorem AssignPlain.set {md : MD} {fd : FD} {idx : Nat} {fs : List F} (h : AssignPlain md fd idx fs) (y : F) :
    AssignPlain md fd idx (fs.set idx y) := by
  intro fs' x hl hag
  apply h fs' x (by simpa using hl)
  intro j hj
  rw [hag j hj, List.getElem?_set_ne (fun e => hj e.symm)]

theorem AssignPlain.self {md : MD} {fd : FD} {idx : Nat} {fs : List F} (h : AssignPlain md fd idx fs) (x : F) :
    assign md fs idx fd x = fs.set idx x := h fs x rfl (fun _ _ => rfl)

theorem AssignPlain.of_clean (md : MD) (fd : FD) (idx : Nat) (fs : List F) (hlen : md.length = fs.length)
    (h : ∀ g, fd.card = .oneof g → ∀ j fdj, md[j]? = some fdj → fdj.card = .oneof g → j ≠ idx → fs[j]? = some .unset) :
    AssignPlain md fd idx fs := by
  intro fs' x hl hag
  unfold assign
  cases hc : fd.card
  case oneof g =>
    simp only []
    apply List.ext_getElem?
    intro j
    by_cases e : idx = j
    · subst e
      simp [List.getElem?_set, List.length_zip, hlen, hl]
    · have hj : j ≠ idx := fun x => e x.symm
      rw [List.getElem?_set_ne e, List.getElem?_set_ne e, List.getElem?_map, List.zip_eq_zipWith, List.getElem?_zipWith]
      cases hm : md[j]? with
      | none =>
        have : fs'[j]? = none := by
          rw [List.getElem?_eq_none_iff] at hm ⊢; omega
        simp [this]
      | some fdj =>
        cases hf : fs'[j]? with
        | none => simp
        | some fj =>
          simp only [Option.map_some]
          by_cases hg : fdj.card = Card.oneof g
          · have := h g hc j fdj hm hg hj
            rw [← hag j hj, hf] at this
            simp [hg, Option.some.inj this]
          · simp [hg]
  all_goals rfl

theorem set_getD_self (fs : List F) (idx : Nat) (x : F) (hlt : idx < fs.length) (h : fs.getD idx .unset = x) :
    fs.set idx x = fs := by
  have hget : fs[idx] = x := by
    rw [List.getD_eq_getElem?_getD, List.getElem?_eq_getElem hlt] at h
    simpa using h
  rw [← hget, List.set_getElem_self]

theorem getD_set {idx : Nat} {fs : List F} (x : F) (hlt : idx < fs.length) : (fs.set idx x).getD idx .unset = x := by
  simp [List.getD_eq_getElem?_getD, List.getElem?_set_self hlt]

theorem fold_scalars_rep (md : MD) (idx : Nat) (fd : FD) (k : SK)
    (hrep : isRep fd.card = true) (unk : Bytes) : ∀ (vs acc : List V) (fs : List F), AssignPlain md fd idx fs → idx < fs.length →
    fs.getD idx .unset = .many acc →
    (vs.map (WRec.scalar idx fd k)).foldl (WRec.apply md) (fs, unk) = (fs.set idx (.many (acc ++ vs.map (decodedV k))), unk) := by
  intro vs
  induction vs with
  | nil =>
    intro acc fs _ hlt hcur
    simp only [List.map_nil, List.foldl_nil, List.append_nil, set_getD_self fs idx _ hlt hcur]
  | cons v vs ih =>
    intro acc fs hap hlt hcur
    simp only [List.map_cons, List.foldl_cons, WRec.apply, hrep, if_true, hap.self, hcur, appendTo]
    rw [ih (acc ++ [decodedV k v]) (fs.set idx (.many (acc ++ [decodedV k v]))) (hap.set _) (by simpa using hlt)
      (getD_set _ hlt)]
    simp [List.set_set]

/-- the Go struct field has the shape its declaration gives it -/
def ShapeOK (fd : FD) : F → Prop
  | .unset => True
  | .one _ => isRep fd.card = false
  | .many _ => isRep fd.card = true ∧ (fd.card = .packed → kindOf fd ≠ .string ∧ kindOf fd ≠ .bytes)

theorem initField_rep (fd : FD) (h : isRep fd.card = true) : initField fd = .many [] := by
  cases hc : fd.card <;> simp [isRep, hc] at h <;> simp [initField, hc]

theorem field_fold (md : MD) (idx : Nat) (fd : FD) (f : F) (fs : List F) (unk : Bytes)
    (hap : AssignPlain md fd idx fs) (hsh : ShapeOK fd f) (hlt : idx < fs.length)
    (hcur : fs.getD idx .unset = initField fd) :
    (fieldRecs idx fd f).foldl (WRec.apply md) (fs, unk) = (fs.set idx (canonField fd f), unk) := by
  cases f with
  | unset => rw [canonField, set_getD_self fs idx _ hlt hcur]; rfl
  | one v =>
    rw [fieldRecs_one, canonField_one]
    split
    · rw [set_getD_self fs idx _ hlt hcur]; rfl
    · simp [WRec.apply, (show isRep fd.card = false from hsh), hap.self]
  | many vs =>
    obtain ⟨hrep, hpk⟩ := hsh
    rw [initField_rep fd hrep] at hcur
    have hlist := fold_scalars_rep md idx fd (kindOf fd) hrep unk vs [] fs hap hlt hcur
    rw [fieldRecs_many, canonField]
    split
    · -- one packed record holds all the elements
      rename_i hc
      cases vs with
      | nil => exact hlist
      | cons v vs =>
        simp [WRec.apply, hap.self, appendTo, decodedVs_eq _ _ (hpk hc), -List.getD_eq_getElem?_getD, hcur]
    · exact hlist

/-- all records of a message, field by field -/
def msgRecs : Nat → MD → List F → List WRec
  | base, fd :: md, f :: fs => fieldRecs base fd f ++ msgRecs (base + 1) md fs
  | _, _, _ => []

def canonFields : MD → List F → List F
  | fd :: md, f :: fs => canonField fd f :: canonFields md fs
  | md, _ => md.map initField

theorem opsFields_recs (S : Schema) : ∀ (base : Nat) (md : MD) (fs : List F) (ops : List EncOp),
    (∀ fd ∈ md, ∃ k, fd.ty = .sc k) → opsFields S md fs = .ok ops → wiresOf ops = wiresW (msgRecs base md fs)
  | _, [], _, ops, _, ho => by cases (opsFields_nil (Or.inl rfl)).symm.trans ho; simp [msgRecs]; rfl
  | _, _ :: _, [], ops, _, ho => by cases (opsFields_nil (Or.inr rfl)).symm.trans ho; rfl
  | base, fd :: md, f :: fs, ops, hflat, ho => by
    obtain ⟨a, b, ha, hb, rfl⟩ := opsFields_ok_cons ho
    obtain ⟨k, hk⟩ := hflat fd (by simp)
    rw [msgRecs, wiresOf_append, wiresW_append, opsField_recs S base fd k hk f a ha,
      opsFields_recs S (base + 1) md fs b (fun x hx => hflat x (by simp [hx])) hb]

theorem set_append_here' (pre : List F) (x y : F) (rest : List F) :
    (pre ++ x :: rest).set pre.length y = pre ++ y :: rest := by
  induction pre with
  | nil => rfl
  | cons p pre ih => simp [ih]

theorem msg_fold (mdAll : MD) (unk : Bytes) : ∀ (md : MD) (fs pre : List F),
    (∀ fd ∈ md, ∀ g, fd.card ≠ .oneof g) → fs.length = md.length →
    (∀ p ∈ md.zip fs, ShapeOK p.1 p.2) →
    (msgRecs pre.length md fs).foldl (WRec.apply mdAll) (pre ++ md.map initField, unk)
      = (pre ++ canonFields md fs, unk)
  | [], fs, pre, _, hlen, _ => by
    cases fs with
    | nil => simp [msgRecs, canonFields]
    | cons f fs => simp at hlen
  | fd :: md, [], pre, _, hlen, _ => by simp at hlen
  | fd :: md, f :: fs, pre, hno, hlen, hsh => by
    simp only [msgRecs, List.foldl_append, List.map_cons, canonFields]
    have hcur : (pre ++ initField fd :: md.map initField).getD pre.length .unset = initField fd := by
      simp [List.getD_eq_getElem?_getD]
    rw [field_fold mdAll pre.length fd f _ unk (.of_plain _ _ _ _ (hno fd (by simp))) (hsh (fd, f) (by simp)) (by simp) hcur,
      set_append_here']
    have := msg_fold mdAll unk md fs (pre ++ [canonField fd f]) (fun x hx => hno x (List.mem_cons_of_mem _ hx))
      (Nat.succ.inj hlen) (fun p hp => hsh p (List.mem_cons_of_mem _ hp))
    rw [List.length_append, List.length_singleton, List.append_assoc, List.append_assoc] at this
    exact this

/-- values in the ranges of their Go types, field numbers valid -/
def ValOK (fd : FD) : F → Prop
  | .unset => True
  | .one v => ValidTag fd.num ∧ DecValid (kindOf fd) v
  | .many vs => ValidTag fd.num ∧ (∀ v ∈ vs, DecValid (kindOf fd) v) ∧ vs.length ≤ maxFieldLen

theorem fieldRecs_ok (mdAll : MD) (idx : Nat) (fd : FD) (f : F) (hfind : findField mdAll fd.num 0 = some (idx, fd))
    (hk : fd.ty = .sc (kindOf fd)) (hsh : ShapeOK fd f) (hv : ValOK fd f) : ∀ r ∈ fieldRecs idx fd f, r.OK mdAll := by
  have none : ∀ r ∈ ([] : List WRec), r.OK mdAll := fun _ h => absurd h List.not_mem_nil
  cases f with
  | unset => exact none
  | one v =>
    rw [fieldRecs_one]
    split
    · exact none
    · intro r hr; rw [List.mem_singleton.mp hr]; exact ⟨hfind, hk, hv.1, hv.2⟩
  | many vs =>
    obtain ⟨ht, hd, hl⟩ := hv
    rw [fieldRecs_many]
    split
    · rename_i hc
      split
      · exact none
      · rename_i hne
        intro r hr; rw [List.mem_singleton.mp hr]
        exact ⟨hfind, hk, ht, hsh.1, by simpa using hne, hd, hl, hsh.2 hc⟩
    · intro r hr
      obtain ⟨v, hvm, rfl⟩ := List.mem_map.mp hr
      exact ⟨hfind, hk, ht, hd v hvm⟩

theorem msgRecs_ok (mdAll : MD) : ∀ (md : MD) (fs : List F) (pre : MD), mdAll = pre ++ md → NoDupNums mdAll →
    (∀ fd ∈ md, fd.ty = .sc (kindOf fd)) → (∀ p ∈ md.zip fs, ShapeOK p.1 p.2 ∧ ValOK p.1 p.2) →
    ∀ r ∈ msgRecs pre.length md fs, r.OK mdAll
  | [], _, _, _, _, _, _ => by simp [msgRecs]
  | _ :: _, [], _, _, _, _, _ => by simp [msgRecs]
  | fd :: md, f :: fs, pre, heq, hnd, hk, hv => by
    intro r hr
    simp only [msgRecs, List.mem_append] at hr
    rcases hr with hr | hr
    · have hfind : findField mdAll fd.num 0 = some (pre.length, fd) := by rw [heq]; exact findField_at pre fd md (heq ▸ hnd)
      exact fieldRecs_ok mdAll pre.length fd f hfind (hk fd (by simp)) (hv (fd, f) (by simp)).1 (hv (fd, f) (by simp)).2 r hr
    · exact msgRecs_ok mdAll md fs (pre ++ [fd]) (by rw [heq]; simp) hnd (fun x hx => hk x (by simp [hx]))
        (fun p hp => hv p (by simp [hp])) r (by simpa using hr)

/-- a required field of a message that marshals is set, so it is set after the round trip -/
theorem required_canonField {S : Schema} {fd : FD} {f : F} {ops : List EncOp} (ho : opsField S fd f = .ok ops) :
    requiredMissing [fd] [canonField fd f] = false := by
  by_cases hreq : fd.card = .required
  · obtain ⟨num, ty, card⟩ := fd
    cases hreq
    cases f with
    | unset => exact absurd rfl (opsField_ok_unset ho).1
    | one v => rfl
    | many vs => rfl
  · simp [requiredMissing, hreq]

theorem canon_complete (S : Schema) : ∀ (md : MD) (fs : List F) (ops : List EncOp), fs.length = md.length →
    opsFields S md fs = .ok ops → requiredMissing md (canonFields md fs) = false
  | [], [], _, _, _ => rfl
  | [], _ :: _, _, h, _ => nomatch h
  | _ :: _, [], _, h, _ => nomatch h
  | fd :: md, f :: fs, ops, hlen, ho => by
    obtain ⟨a, b, ha, hb, -⟩ := opsFields_ok_cons ho
    rw [canonFields, requiredMissing_cons, required_canonField ha, canon_complete S md fs b (Nat.succ.inj hlen) hb]
    rfl

/-- **Round trip of a message of scalar fields, with unknown fields, in either decoder mode**:
    `Unmarshal(Marshal(m))` is `m` (values normalised to their field width), presence included, and the
    unknown fields come back byte for byte. -/
theorem roundtrip_flat (S : Schema) (fast : Bool) (md : MD) (fs : List F) (urs : List Rec) (ops : List EncOp)
    (hflat : FlatMD md) (hnd : NoDupNums md) (hlen : fs.length = md.length)
    (hv : ∀ p ∈ md.zip fs, ShapeOK p.1 p.2 ∧ ValOK p.1 p.2)
    (hu : ∀ r ∈ urs, r.OK ∧ findField md r.tag 0 = none)
    (ho : opsFields S md fs = .ok ops) :
    unmarshal S fast md (wiresOf ops ++ Csproto.wiresOf urs) = .ok (canonFields md fs, Csproto.wiresOf urs) := by
  have hk : ∀ fd ∈ md, fd.ty = .sc (kindOf fd) := by
    intro fd hfd
    obtain ⟨⟨k, hk⟩, _⟩ := hflat fd hfd
    simp [kindOf, hk]
  have hbytes : wiresOf ops ++ Csproto.wiresOf urs = wiresW (msgRecs 0 md fs ++ urs.map WRec.unknown) := by
    rw [wiresW_append, wiresW_unknown, opsFields_recs S 0 md fs ops (fun fd hfd => (hflat fd hfd).1) ho]
  have hok : ∀ r ∈ msgRecs 0 md fs ++ urs.map WRec.unknown, r.OK md := by
    intro r hr
    rcases List.mem_append.mp hr with h | h
    · exact msgRecs_ok md md fs [] rfl hnd hk hv r h
    · obtain ⟨u, hum, rfl⟩ := List.mem_map.mp h
      exact hu u hum
  rw [hbytes, unmarshal_records S fast md _ hok, List.foldl_append]
  have hfold := msg_fold md [] md fs [] (fun fd hfd => (hflat fd hfd).2.1) hlen (fun p hp => (hv p hp).1)
  simp only [List.length_nil, List.nil_append] at hfold
  have hinit : initFields md = md.map initField := rfl
  rw [hinit, hfold, fold_map_unknown]
  simp [canon_complete S md fs ops hlen ho]

end Csproto.Gen
