import Csproto.Proofs.Varint
/-
  Zig-zag, fixed-width little endian, keys, conversions between signed and unsigned.
-/
namespace Csproto

theorem zigzag_ofNat (n : Nat) : zigzag n = 2 * n := by
  unfold zigzag; rw [if_pos (Int.natCast_nonneg n)]; exact Int.toNat_natCast (2 * n)

theorem zigzag_negSucc (n : Nat) : zigzag (Int.negSucc n) = 2 * n + 1 := by
  unfold zigzag; rw [if_neg (Int.negSucc_not_nonneg n).mp]; omega

theorem unzigzag_even (n : Nat) : unzigzag (2 * n) = n := by
  unfold unzigzag; rw [if_pos (Nat.mul_mod_right 2 n), Nat.mul_div_cancel_left n (by decide)]

theorem unzigzag_odd (n : Nat) : unzigzag (2 * n + 1) = Int.negSucc n := by
  unfold unzigzag
  rw [if_neg (by rw [Nat.mul_add_mod]; decide), Nat.mul_add_div (by decide), Int.negSucc_eq, Int.neg_add]; rfl

theorem unzigzag_zigzag (i : Int) : unzigzag (zigzag i) = i := by
  cases i with
  | ofNat n => rw [Int.ofNat_eq_natCast, zigzag_ofNat, unzigzag_even]
  | negSucc n => rw [zigzag_negSucc, unzigzag_odd]

theorem zigzag_unzigzag (n : Nat) : zigzag (unzigzag n) = n := by
  rcases Nat.mod_two_eq_zero_or_one n with h | h
  · rw [← Nat.div_add_mod n 2, h, Nat.add_zero, unzigzag_even, zigzag_ofNat]
  · rw [← Nat.div_add_mod n 2, h, unzigzag_odd, zigzag_negSucc]

theorem zigzag_lt {H : Nat} {i : Int} (hlo : -(H : Int) ≤ i) (hhi : i < H) : zigzag i < 2 * H := by
  cases i with
  | ofNat n => rw [Int.ofNat_eq_natCast] at hhi ⊢; rw [zigzag_ofNat]; omega
  | negSucc n => rw [zigzag_negSucc]; omega

theorem zigzag_lt_two64 {i : Int} (h : InI64 i) : zigzag i < two64 := zigzag_lt h.1 h.2

theorem zigzag_lt_two32 {i : Int} (h : InI32 i) : zigzag i < two32 := zigzag_lt h.1 h.2

theorem decodeZigZag64_enc (i : Int) (h : InI64 i) (rest : Bytes) :
    decodeZigZag64 (encZigZag64 i ++ rest) = .ok (i, (encZigZag64 i).length) := by
  unfold decodeZigZag64 encZigZag64
  rw [decodeVarint_encVarint _ (zigzag_lt_two64 h)]
  have := encVarint_length_pos (zigzag i)
  have hne : ¬ (encVarint (zigzag i)).length = 0 := by omega
  simp [hne, unzigzag_zigzag]

theorem decodeZigZag32_enc (i : Int) (h : InI32 i) (rest : Bytes) :
    decodeZigZag32 (encZigZag32 i ++ rest) = .ok (i, (encZigZag32 i).length) := by
  unfold decodeZigZag32 encZigZag32
  have h32 := zigzag_lt_two32 h
  have h64 : zigzag i < two64 := by unfold two32 at h32; unfold two64; omega
  rw [decodeVarint_encVarint _ h64]
  have := encVarint_length_pos (zigzag i)
  have hne : ¬ (encVarint (zigzag i)).length = 0 := by omega
  simp [hne, Nat.mod_eq_of_lt h32, unzigzag_zigzag]

@[simp] theorem leBytes_length (n v : Nat) : (leBytes n v).length = n := by
  induction n generalizing v with
  | zero => simp [leBytes]
  | succ n ih => simp [leBytes, ih]

theorem fromLE_leBytes (n v : Nat) : fromLE (leBytes n v) = v % 256 ^ n := by
  induction n generalizing v with
  | zero => simp [leBytes, fromLE, Nat.mod_one]
  | succ n ih =>
    simp only [leBytes, fromLE]
    rw [ih, UInt8.toNat_ofNat_of_lt' (Nat.mod_lt _ (by decide))]
    rw [Nat.pow_succ, Nat.mul_comm (256 ^ n) 256, Nat.mod_mul]

theorem take_append_length {α} (a b : List α) : (a ++ b).take a.length = a := List.take_left

theorem fromLE_take_leBytes (n v : Nat) (rest : Bytes) : fromLE ((leBytes n v ++ rest).take n) = v % 256 ^ n := by
  rw [List.take_left' (leBytes_length n v), fromLE_leBytes]

theorem decodeFixed32_enc (v : Nat) (h : v < two32) (rest : Bytes) :
    decodeFixed32 (encFixed32 v ++ rest) = .ok (v, 4) := by
  unfold decodeFixed32 encFixed32
  rw [if_neg (by simp), fromLE_take_leBytes, Nat.mod_eq_of_lt (show v < 256 ^ 4 from h)]

theorem decodeFixed64_enc (v : Nat) (h : v < two64) (rest : Bytes) :
    decodeFixed64 (encFixed64 v ++ rest) = .ok (v, 8) := by
  unfold decodeFixed64 encFixed64
  rw [if_neg (by simp), fromLE_take_leBytes, Nat.mod_eq_of_lt (show v < 256 ^ 8 from h)]

/-- a key is `8·tag + wt` as long as the shift does not overflow 64 bits -/
theorem keyOf_eq_of_lt {tag wt : Nat} (ht : tag < 2 ^ 61) (hw : wt < 8) : keyOf tag wt = tag * 8 + wt := by
  unfold keyOf
  rw [Nat.shiftLeft_eq, Nat.mod_eq_of_lt (by rw [two64_eq]; omega), ← Nat.shiftLeft_eq,
    ← Nat.shiftLeft_add_eq_or_of_lt (i := 3) hw, Nat.shiftLeft_eq]

theorem keyOf_eq {tag wt : Nat} (ht : tag ≤ maxTagValue) (hw : wt < 8) : keyOf tag wt = tag * 8 + wt :=
  keyOf_eq_of_lt (Nat.lt_of_le_of_lt ht (by decide)) hw

theorem keyOf_lt {tag wt : Nat} (ht : tag ≤ maxTagValue) (hw : wt < 8) : keyOf tag wt < two32 := by
  rw [keyOf_eq ht hw]; unfold maxTagValue at ht; unfold two32; omega

theorem encTag_ne_nil (tag wt : Nat) : encTag tag wt ≠ [] := encVarint_ne_nil _

theorem decodeVarint_encTag {tag wt : Nat} (ht : tag ≤ maxTagValue) (hw : wt < 8) (rest : Bytes) :
    decodeVarint (encTag tag wt ++ rest) = .ok (keyOf tag wt, (encTag tag wt).length) :=
  decodeVarint_encVarint _ (Nat.lt_trans (keyOf_lt ht hw) (by decide)) rest

theorem keyOf_shift {tag wt : Nat} (ht : tag ≤ maxTagValue) (hw : wt < 8) :
    keyOf tag wt >>> 3 = tag ∧ keyOf tag wt &&& 7 = wt := by
  rw [keyOf_eq ht hw, Nat.mul_comm]
  constructor
  · rw [Nat.shiftRight_eq_div_pow, Nat.mul_add_div (by decide), Nat.div_eq_of_lt hw, Nat.add_zero]
  · rw [show (7:Nat) = 2 ^ 3 - 1 from rfl, Nat.and_two_pow_sub_one_eq_mod, Nat.mul_add_mod, Nat.mod_eq_of_lt hw]

/-- adding a wire type (< 8) to `8·tag` never changes the number of 7-bit groups -/
theorem sizeOfTagKey_eq_length {tag wt : Nat} (ht : tag ≤ maxTagValue) (hw : wt < 8) :
    sizeOfTagKey tag = (encTag tag wt).length := by
  unfold sizeOfTagKey encTag
  have h64 : tag * 8 < two64 := Nat.lt_of_le_of_lt (Nat.mul_le_mul_right 8 ht) (by decide)
  rw [keyOf_eq ht hw, Nat.shiftLeft_eq, Nat.mod_eq_of_lt h64, sizeOfVarint_eq_length]
  refine eq_of_forall_le_iff (encVarint_length_pos _) (encVarint_length_pos _) fun n hn => ?_
  -- `2^(7n)` is a multiple of 8: divided by 8, both bounds say `tag < 2^(7n-3)`
  rw [encVarint_length_le_iff _ _ hn, encVarint_length_le_iff _ _ hn, show 7 * n = (7 * n - 3) + 3 by omega, Nat.pow_add,
    ← Nat.div_lt_iff_lt_mul (by decide), ← Nat.div_lt_iff_lt_mul (by decide), Nat.mul_comm tag, Nat.mul_add_div (by decide),
    Nat.mul_div_cancel_left _ (by decide), Nat.div_eq_of_lt hw, Nat.add_zero]

theorem emod_of_neg {i M : Int} (h0 : i < 0) (h : -M ≤ i) : i % M = i + M := by
  rw [← Int.add_emod_right, Int.emod_eq_of_lt (by omega) (by omega)]

/-- two's complement at any width `M = 2H`: if `u` is the signed number `i` wrapped to `[0, M)`, reading `u` back as
    signed gives `i` again -/
theorem wrap_unwrap {M H u : Nat} (hM : M = 2 * H) {i : Int} (hlo : -(H : Int) ≤ i) (hhi : i < H)
    (hu : (u : Int) = i % (M : Int)) :
    (if u % M < H then ((u % M : Nat) : Int) else ((u % M : Nat) : Int) - M) = i := by
  have hlt : u % M = u := Nat.mod_eq_of_lt (Int.ofNat_lt.mp (hu ▸ Int.emod_lt_of_pos i (by omega)))
  rw [hlt]
  by_cases h0 : 0 ≤ i
  · rw [Int.emod_eq_of_lt h0 (by omega)] at hu
    rw [if_pos (by omega), hu]
  · rw [emod_of_neg (by omega) (by omega)] at hu
    rw [if_neg (by omega), hu, Int.add_sub_cancel]

theorem toNat_emod_lt (i : Int) {M : Nat} (hM : 0 < M) : (i % (M : Int)).toNat < M := by
  have hpos : 0 < (M : Int) := Int.ofNat_lt.mpr hM
  exact Int.ofNat_lt.mp (Int.toNat_of_nonneg (Int.emod_nonneg i (Int.ne_of_gt hpos)) ▸ Int.emod_lt_of_pos i hpos)

theorem toU64_lt (i : Int) : toU64 i < two64 := toNat_emod_lt i (by decide)

theorem toU32_lt (i : Int) : toU32 i < two32 := toNat_emod_lt i (by decide)

theorem toI64_toU64 {i : Int} (h : InI64 i) : toI64 (toU64 i) = i :=
  wrap_unwrap (M := two64) (H := two63) (by decide) h.1 h.2 (Int.toNat_of_nonneg (Int.emod_nonneg i (by decide)))

theorem toI32_toU32 {i : Int} (h : InI32 i) : toI32 (toU32 i) = i :=
  wrap_unwrap (M := two32) (H := two31) (by decide) h.1 h.2 (Int.toNat_of_nonneg (Int.emod_nonneg i (by decide)))

theorem InI32.toI64 {i : Int} (h : InI32 i) : InI64 i := by
  unfold InI32 two31 at h; unfold InI64 two63; omega

end Csproto
