import Csproto.Model.Gen
import Csproto.Props.C01
import Csproto.Props.C19
/-
  The model of the generated code: every `SizeOf*` arm adds exactly the number of bytes its `Marshal*` arm
  writes, and a sequence of encoder calls with enough room appends exactly the concatenation of their wire bytes.

  `opsFields`, `opsField`, `bytesMsgV` and `opsMsgList` are error-propagating code written out as matches; they are
  used through their equations in terms of `Res.bind` / `Res.map` and the inversions of a successful outcome
  (`*_ok_*`).
-/
namespace Csproto.Gen
open Csproto Csproto.C01

theorem _root_.Csproto.Res.map_eq_ok {α β} {r : Res α} {f : α → β} {b : β} :
    r.map f = .ok b ↔ ∃ a, r = .ok a ∧ f a = b := by cases r <;> simp [Res.map]
theorem _root_.Csproto.Res.map_eq_err {α β} {r : Res α} {f : α → β} : r.map f = .err ↔ r = .err := by
  cases r <;> simp [Res.map]
theorem _root_.Csproto.Res.map_ne_panic {α β} {r : Res α} {f : α → β} (h : r ≠ .panic) : r.map f ≠ .panic := by
  cases r <;> simp_all [Res.map]
theorem _root_.Csproto.Res.bind_map_eq_ok {α β γ} {r : Res α} {s : Res β} {g : α → β → γ} {c : γ} :
    (r.bind fun a => s.map (g a)) = .ok c ↔ ∃ a b, r = .ok a ∧ s = .ok b ∧ g a b = c := by
  cases r <;> cases s <;> simp [Res.bind, Res.map]
theorem _root_.Csproto.Res.bind_map_eq_err {α β γ} {r : Res α} {s : Res β} {g : α → β → γ} (hr : r ≠ .panic) :
    (r.bind fun a => s.map (g a)) = .err ↔ r = .err ∨ s = .err := by
  cases r <;> cases s <;> simp_all [Res.bind, Res.map]
theorem _root_.Csproto.Res.bind_map_ne_panic {α β γ} {r : Res α} {s : Res β} {g : α → β → γ} (hr : r ≠ .panic)
    (hs : s ≠ .panic) : (r.bind fun a => s.map (g a)) ≠ .panic := by
  cases r <;> cases s <;> simp_all [Res.bind, Res.map]

/-- a call whose outcome is determined: a plain writer, or `EncodeNested` of a message whose
    `Size()` equals the bytes its `MarshalTo` produces -/
def OpExact : EncOp → Prop
  | .nested _ sz how body => how = 0 ∧ ∃ b, body = some b ∧ sz = b.length
  | _ => True

theorem wiresOf_nil : wiresOf [] = [] := rfl
theorem wiresOf_cons (op : EncOp) (ops : List EncOp) : wiresOf (op :: ops) = op.wire ++ wiresOf ops := by
  simp [wiresOf]
theorem wiresOf_append (a b : List EncOp) : wiresOf (a ++ b) = wiresOf a ++ wiresOf b := by
  simp [wiresOf]

theorem step_exact (e : Enc) (op : EncOp) (hx : OpExact op) (h : e.Room op.wire.length) :
    ∃ e', e.step op = .ok e' ∧ Enc.Appended e e' op.wire := by
  cases hp : op.plain
  · -- nested
    cases op <;> simp [EncOp.plain] at hp
    rename_i tag sz how body
    obtain ⟨h0, b, hb, hs⟩ := hx
    subst h0; subst hb
    have hw : (EncOp.nested tag sz 0 (some b)).wire = C19.nestedWire tag b := by
      simp [EncOp.wire, C19.nestedWire, hs]
    rw [hw] at h ⊢
    exact C19.encodeNested_exact e tag sz 0 b (fun _ => hs) h
  · exact e.step_room op hp h

theorem run_exact (ops : List EncOp) : ∀ (e : Enc), (∀ op ∈ ops, OpExact op) → e.Room (wiresOf ops).length →
    ∃ e', e.run ops = .ok e' ∧ Enc.Appended e e' (wiresOf ops) := by
  induction ops with
  | nil => intro e _ _; exact ⟨e, rfl, by rw [wiresOf_nil]; exact Enc.Appended.refl e⟩
  | cons op ops ih =>
    intro e hx hroom
    rw [wiresOf_cons, List.length_append] at hroom
    obtain ⟨e1, h1, a1⟩ := step_exact e op (hx op (by simp)) (by unfold Enc.Room at *; omega)
    obtain ⟨e2, h2, a2⟩ := ih e1 (fun o ho => hx o (by simp [ho])) (by unfold Enc.Room at *; rw [a1.off, a1.cap]; omega)
    refine ⟨e2, ?_, by rw [wiresOf_cons]; exact a1.trans a2⟩
    simp only [Enc.run, h1, h2]

theorem opsFields_cons (S : Schema) (fd : FD) (md : MD) (f : F) (fs : List F) :
    opsFields S (fd :: md) (f :: fs) = (opsField S fd f).bind fun a => (opsFields S md fs).map fun b => a ++ b := by
  rw [opsFields]
  cases opsField S fd f <;> try rfl
  cases opsFields S md fs <;> rfl

theorem opsFields_ok_cons {S : Schema} {fd : FD} {md : MD} {f : F} {fs : List F} {ops : List EncOp}
    (h : opsFields S (fd :: md) (f :: fs) = .ok ops) :
    ∃ a b, opsField S fd f = .ok a ∧ opsFields S md fs = .ok b ∧ ops = a ++ b := by
  rw [opsFields_cons, Res.bind_map_eq_ok] at h
  obtain ⟨a, b, ha, hb, rfl⟩ := h
  exact ⟨a, b, ha, hb, rfl⟩

theorem opsFields_nil {S : Schema} {md : MD} {fs : List F} (h : md = [] ∨ fs = []) : opsFields S md fs = .ok [] := by
  rcases h with rfl | rfl
  · cases fs <;> rfl
  · cases md <;> rfl

theorem sizeFields_nil {S : Schema} {md : MD} {fs : List F} (h : md = [] ∨ fs = []) : sizeFields S md fs = 0 := by
  rcases h with rfl | rfl
  · cases fs <;> rfl
  · cases md <;> rfl

theorem bytesMsgV_msg (S : Schema) (md : MD) (fs : List F) (unk : Bytes) :
    bytesMsgV S md (.msg fs unk) = (opsFields S md fs).map fun ops => wiresOf ops ++ unk := by
  rw [bytesMsgV]; cases opsFields S md fs <;> rfl

theorem bytesMsgV_ok_msg {S : Schema} {md : MD} {fs : List F} {unk body : Bytes}
    (h : bytesMsgV S md (.msg fs unk) = .ok body) : ∃ ops, opsFields S md fs = .ok ops ∧ wiresOf ops ++ unk = body :=
  Res.map_eq_ok.mp ((bytesMsgV_msg S md fs unk).symm.trans h)

theorem opsMsgList_cons (S : Schema) (md : MD) (tag : Nat) (sk : Bool) (v : V) (vs : List V) :
    opsMsgList S md tag sk (v :: vs) =
      if sk && nilEntry md v then opsMsgList S md tag sk vs else
      (bytesMsgV S md v).bind fun body => (opsMsgList S md tag sk vs).map fun rest =>
        .nested tag (sizeMsgV S md v) 0 (some body) :: rest := by
  rw [opsMsgList]
  split
  · rfl
  · cases bytesMsgV S md v <;> try rfl
    cases opsMsgList S md tag sk vs <;> rfl

theorem opsMsgList_ok_cons {S : Schema} {md : MD} {tag : Nat} {sk : Bool} {v : V} {vs : List V} {ops : List EncOp}
    (hn : (sk && nilEntry md v) = false) (h : opsMsgList S md tag sk (v :: vs) = .ok ops) :
    ∃ body rest, bytesMsgV S md v = .ok body ∧ opsMsgList S md tag sk vs = .ok rest ∧
      .nested tag (sizeMsgV S md v) 0 (some body) :: rest = ops := by
  rw [opsMsgList_cons, hn] at h
  exact Res.bind_map_eq_ok.mp h

theorem opsField_ok_unset {S : Schema} {fd : FD} {ops : List EncOp} (h : opsField S fd .unset = .ok ops) :
    fd.card ≠ .required ∧ ops = [] := by
  rw [opsField] at h
  split at h
  · cases h
  · rename_i hnr
    cases h
    exact ⟨hnr, rfl⟩

theorem opsField_one_msg (S : Schema) {fd : FD} {i : Nat} (hty : fd.ty = .msg i) (v : V) :
    opsField S fd (.one v) =
      (bytesMsgV S (S.md i) v).map fun body => [.nested fd.num (sizeMsgV S (S.md i) v) 0 (some body)] := by
  simp only [opsField, hty]
  cases bytesMsgV S (S.md i) v <;> rfl

theorem opsField_ok_one_msg {S : Schema} {fd : FD} {i : Nat} (hty : fd.ty = .msg i) {v : V} {ops : List EncOp}
    (h : opsField S fd (.one v) = .ok ops) :
    ∃ body, bytesMsgV S (S.md i) v = .ok body ∧ [.nested fd.num (sizeMsgV S (S.md i) v) 0 (some body)] = ops :=
  Res.map_eq_ok.mp ((opsField_one_msg S hty v).symm.trans h)

theorem opsField_many_msg (S : Schema) {fd : FD} {i : Nat} (hty : fd.ty = .msg i) (vs : List V) :
    opsField S fd (.many vs) = opsMsgList S (S.md i) fd.num fd.card.isMap vs := by
  simp only [opsField, hty]

theorem opsField_one_sc (S : Schema) {fd : FD} {k : SK} (hty : fd.ty = .sc k) (v : V) :
    opsField S fd (.one v) =
      .ok (if fd.card = .implicit ∧ implicitPresent k v = false then [] else [scalarOp k fd.num v]) := by
  simp only [opsField, hty]
  cases fd.card with
  | implicit => cases implicitPresent k v <;> rfl
  | _ => rfl

theorem sizeField_one_sc (S : Schema) {fd : FD} {k : SK} (hty : fd.ty = .sc k) (v : V) :
    sizeField S fd (.one v) =
      if fd.card = .implicit ∧ implicitPresent k v = false then 0 else scalarSize k fd.num v := by
  simp only [sizeField, hty]
  cases fd.card with
  | implicit => cases implicitPresent k v <;> rfl
  | _ => rfl

theorem opsField_many_sc (S : Schema) {fd : FD} {k : SK} (hty : fd.ty = .sc k) (vs : List V) :
    opsField S fd (.many vs) =
      .ok (if fd.card = .packed then (if vs.isEmpty then [] else [packedOp k fd.num vs])
           else vs.map (scalarOp k fd.num)) := by
  simp only [opsField, hty]
  cases fd.card <;> rfl

theorem sizeField_many_sc (S : Schema) {fd : FD} {k : SK} (hty : fd.ty = .sc k) (vs : List V) :
    sizeField S fd (.many vs) =
      if fd.card = .packed then packedSize k fd.num vs else sumSizes (scalarSize k fd.num) vs := by
  simp only [sizeField, hty]
  cases fd.card <;> rfl

/-- the machine range of a value of kind `k` -/
def ValidScalar (k : SK) (v : V) : Prop :=
  match k with
  | .fixed32 | .sfixed32 | .float => v.n < two32
  | .int64 | .uint32 | .uint64 | .fixed64 | .sfixed64 | .double => v.n < two64
  | .string | .bytes => v.b.length ≤ maxFieldLen
  | _ => True

mutual
/-- every number in its machine range; nothing about the shape of a message is needed for exactness -/
def OKFields (S : Schema) : MD → List F → Prop
  | fd :: md, f :: fs => OKField S fd f ∧ OKFields S md fs
  | _, _ => True
def OKField (S : Schema) (fd : FD) : F → Prop
  | .unset => True
  | .one v => ValidTag fd.num ∧
      (match fd.ty with
       | .sc k => ValidScalar k v
       | .msg i => OKMsgV S (S.md i) v)
  | .many vs => ValidTag fd.num ∧
      (match fd.ty with
       | .sc k => (∀ v ∈ vs, ValidScalar k v) ∧ vs.length ≤ maxFieldLen
       | .msg i => OKMsgList S (S.md i) vs)
def OKMsgV (S : Schema) (md : MD) : V → Prop
  | .msg fs _ => OKFields S md fs
  | _ => True
def OKMsgList (S : Schema) (md : MD) : List V → Prop
  | [] => True
  | v :: vs => OKMsgV S md v ∧ OKMsgList S md vs
end

/-- the field numbers of the example schemas are valid -/
theorem validTag_1 : ValidTag 1 := ⟨by decide, by decide⟩
theorem validTag_2 : ValidTag 2 := ⟨by decide, by decide⟩
theorem validTag_3 : ValidTag 3 := ⟨by decide, by decide⟩
theorem validTag_4 : ValidTag 4 := ⟨by decide, by decide⟩
theorem validTag_5 : ValidTag 5 := ⟨by decide, by decide⟩

/-- Go's conversion of an unsigned value to the signed type of the same width `m = 2 * h` lands in `[-h, h)` -/
theorem wrap_in {m h : Nat} (hm : m = 2 * h) (hpos : 0 < m) (v : Nat) :
    -(h : Int) ≤ (if v % m < h then ((v % m : Nat) : Int) else ((v % m : Nat) : Int) - m) ∧
      (if v % m < h then ((v % m : Nat) : Int) else ((v % m : Nat) : Int) - m) < h := by
  have := Nat.mod_lt v hpos
  split <;> omega

theorem toI32_in (n : Nat) : InI32 (toI32 n) := wrap_in (m := two32) (h := two31) rfl (by decide) n
theorem toI64_in (n : Nat) : InI64 (toI64 n) := wrap_in (m := two64) (h := two63) rfl (by decide) n

/-- each scalar snippet pair is the C01 size prediction for the hand-written writer it calls -/
theorem scalar_exact (k : SK) (tag : Nat) (v : V) (ht : ValidTag tag) (h : ValidScalar k v) :
    scalarSize k tag v = (scalarOp k tag v).wire.length := by
  cases k
  case bool => exact predicted_exact (.bool _) tag ht trivial
  case int32 | enum => exact predicted_exact (.int32 _) tag ht (toI32_in _)
  case sint32 => exact predicted_exact (.sint32 _) tag ht (toI32_in _)
  case sint64 => exact predicted_exact (.sint64 _) tag ht (toI64_in _)
  case int64 | uint32 | uint64 => exact predicted_exact (.uint64 _) tag ht h
  case fixed32 | sfixed32 | float => exact predicted_exact (.fixed32 _) tag ht h
  case fixed64 | sfixed64 | double => exact predicted_exact (.fixed64 _) tag ht h
  case string | bytes => exact predicted_exact (.bytes _) tag ht h

theorem scalarOp_exact (k : SK) (tag : Nat) (v : V) : OpExact (scalarOp k tag v) := by
  cases k <;> exact True.intro

/-- a non-empty list within the length limit, mapped, meets the three conditions `FieldVal.Valid` puts on a
    packed field -/
theorem map_packed_ok {β} {vs : List V} (hne : vs ≠ []) (hl : vs.length ≤ maxFieldLen) (f : V → β) (P : β → Prop)
    (h : ∀ v ∈ vs, P (f v)) : vs.map f ≠ [] ∧ (∀ x ∈ vs.map f, P x) ∧ (vs.map f).length * 10 < two64 := by
  refine ⟨mt List.map_eq_nil_iff.mp hne, List.forall_mem_map.mpr h, ?_⟩
  rw [List.length_map]; unfold maxFieldLen at hl; unfold two64; omega

/-- each packed snippet pair is the C01 size prediction for the packed writer, on the list after the element
    conversion -/
theorem packed_exact (k : SK) (tag : Nat) (vs : List V) (ht : ValidTag tag) (hne : vs ≠ [])
    (hv : ∀ v ∈ vs, ValidScalar k v) (hl : vs.length ≤ maxFieldLen) :
    packedSize k tag vs = (packedOp k tag vs).wire.length := by
  unfold packedSize
  rw [List.isEmpty_eq_false_iff.mpr hne]
  cases k
  case string | bytes => rfl
  case bool =>
    rw [← List.length_map fun v => v.n != 0]
    exact predicted_exact (.pBool _) tag ht ⟨mt List.map_eq_nil_iff.mp hne, by rw [List.length_map]; exact hl⟩
  case int32 | enum => exact predicted_exact (.pUint64 _) tag ht (map_packed_ok hne hl _ _ fun _ _ => toU64_lt _)
  case sint32 => exact predicted_exact (.pSint32 _) tag ht (map_packed_ok hne hl _ _ fun v _ => toI32_in v.n)
  case sint64 => exact predicted_exact (.pSint64 _) tag ht (map_packed_ok hne hl _ _ fun v _ => toI64_in v.n)
  case int64 | uint32 | uint64 => exact predicted_exact (.pUint64 _) tag ht (map_packed_ok hne hl _ _ hv)
  case fixed32 | sfixed32 | float =>
    rw [← List.length_map V.n]; exact predicted_exact (.pFixed32 _) tag ht (map_packed_ok hne hl _ _ hv)
  case fixed64 | sfixed64 | double =>
    rw [← List.length_map V.n]; exact predicted_exact (.pFixed64 _) tag ht (map_packed_ok hne hl _ _ hv)

theorem packedOp_exact (k : SK) (tag : Nat) (vs : List V) : OpExact (packedOp k tag vs) := by
  cases k <;> exact True.intro

theorem nested_wire_length (tag : Nat) (b : Bytes) (ht : ValidTag tag) :
    (EncOp.nested tag b.length 0 (some b)).wire.length = sizeOfTagKey tag + sizeOfVarint b.length + b.length := by
  simp [EncOp.wire, sizeOfVarint_eq_length, sizeOfTagKey_exact tag wtLen ht (by decide)]
  omega

theorem sumSizes_cons {α} (f : α → Nat) (a : α) (l : List α) : sumSizes f (a :: l) = f a + sumSizes f l := by
  simp [sumSizes]

/-- `n` is the number of bytes the calls `ops` write, and the outcome of each of them is determined; `fields_exact`,
    `field_exact` and `msgList_exact` conclude `Exact (size …) ops`, written out -/
def Exact (n : Nat) (ops : List EncOp) : Prop := n = (wiresOf ops).length ∧ ∀ op ∈ ops, OpExact op

theorem Exact.nil : Exact 0 [] := ⟨rfl, fun _ h => absurd h List.not_mem_nil⟩

theorem Exact.cons {n m : Nat} {op : EncOp} {ops : List EncOp} (h : n = op.wire.length) (hx : OpExact op)
    (ht : Exact m ops) : Exact (n + m) (op :: ops) :=
  ⟨by rw [wiresOf_cons, List.length_append, h, ht.1], fun o ho => (List.mem_cons.mp ho).elim (· ▸ hx) (ht.2 o)⟩

theorem Exact.single {n : Nat} {op : EncOp} (h : n = op.wire.length) (hx : OpExact op) : Exact n [op] :=
  Exact.cons h hx .nil

theorem Exact.append {n m : Nat} {a b : List EncOp} (ha : Exact n a) (hb : Exact m b) : Exact (n + m) (a ++ b) :=
  ⟨by rw [wiresOf_append, List.length_append, ha.1, hb.1], fun o ho => (List.mem_append.mp ho).elim (ha.2 o) (hb.2 o)⟩

theorem scalar_list_exact (k : SK) (tag : Nat) (ht : ValidTag tag) : ∀ (vs : List V), (∀ v ∈ vs, ValidScalar k v) →
    Exact (sumSizes (scalarSize k tag) vs) (vs.map (scalarOp k tag))
  | [], _ => .nil
  | v :: vs, hv =>
    .cons (scalar_exact k tag v ht (hv v (List.mem_cons_self ..))) (scalarOp_exact k tag v)
      (scalar_list_exact k tag ht vs fun x hx => hv x (List.mem_cons_of_mem _ hx))

theorem unset_exact {S : Schema} {fd : FD} {ops : List EncOp} (ho : opsField S fd .unset = .ok ops) :
    Exact (sizeField S fd .unset) ops := by
  obtain ⟨hnr, rfl⟩ := opsField_ok_unset ho
  rw [sizeField, if_neg (fun h => hnr h.1)]
  exact .nil

/-- a scalar field in any state: unset, singular, packed or one record per element -/
theorem scalarField_exact (S : Schema) {fd : FD} {k : SK} (hty : fd.ty = .sc k) (f : F) (ops : List EncOp)
    (hok : OKField S fd f) (ho : opsField S fd f = .ok ops) : Exact (sizeField S fd f) ops := by
  cases f with
  | unset => exact unset_exact ho
  | one v =>
    obtain ⟨ht, hv⟩ := hok
    rw [hty] at hv
    rw [opsField_one_sc S hty] at ho
    cases ho
    rw [sizeField_one_sc S hty]
    split
    · exact .nil
    · exact .single (scalar_exact k fd.num v ht hv) (scalarOp_exact k fd.num v)
  | many vs =>
    obtain ⟨ht, hv⟩ := hok
    rw [hty] at hv
    rw [opsField_many_sc S hty] at ho
    cases ho
    rw [sizeField_many_sc S hty]
    split
    · by_cases hne : vs = []
      · subst hne; exact .nil
      · rw [if_neg (by simpa using hne)]
        exact .single (packed_exact k fd.num vs ht hne hv.1 hv.2) (packedOp_exact k fd.num vs)
    · exact scalar_list_exact k fd.num ht vs hv.1

mutual
theorem fields_exact (S : Schema) : ∀ (md : MD) (fs : List F) (ops : List EncOp),
    OKFields S md fs → opsFields S md fs = .ok ops →
    sizeFields S md fs = (wiresOf ops).length ∧ ∀ op ∈ ops, OpExact op
  | [], _, ops, _, ho => by
    cases (opsFields_nil (Or.inl rfl)).symm.trans ho; rw [sizeFields_nil (Or.inl rfl)]; exact Exact.nil
  | _ :: _, [], ops, _, ho => by
    cases (opsFields_nil (Or.inr rfl)).symm.trans ho; rw [sizeFields_nil (Or.inr rfl)]; exact Exact.nil
  | fd :: md, f :: fs, ops, hok, ho => by
    obtain ⟨a, b, ha, hb, rfl⟩ := opsFields_ok_cons ho
    exact Exact.append (field_exact S fd f a hok.1 ha) (fields_exact S md fs b hok.2 hb)

theorem field_exact (S : Schema) (fd : FD) : ∀ (f : F) (ops : List EncOp),
    OKField S fd f → opsField S fd f = .ok ops →
    sizeField S fd f = (wiresOf ops).length ∧ ∀ op ∈ ops, OpExact op
  | .unset, ops, _, ho => unset_exact ho
  | .one v, ops, hok, ho => by
    cases hty : fd.ty with
    | sc k => exact scalarField_exact S hty _ ops hok ho
    | msg i =>
      obtain ⟨ht, hv⟩ := hok
      rw [hty] at hv
      obtain ⟨body, hb, rfl⟩ := opsField_ok_one_msg hty ho
      have hl := msgV_exact S (S.md i) v body hv hb
      simp only [sizeField, hty]
      rw [hl]
      exact Exact.single (nested_wire_length fd.num body ht).symm ⟨rfl, body, rfl, rfl⟩
  | .many vs, ops, hok, ho => by
    cases hty : fd.ty with
    | sc k => exact scalarField_exact S hty _ ops hok ho
    | msg i =>
      obtain ⟨ht, hv⟩ := hok
      rw [hty] at hv
      rw [opsField_many_msg S hty] at ho
      simp only [sizeField, hty]
      exact msgList_exact S (S.md i) fd.num fd.card.isMap vs ops ht hv ho

theorem msgV_exact (S : Schema) (md : MD) : ∀ (v : V) (body : Bytes),
    OKMsgV S md v → bytesMsgV S md v = .ok body → sizeMsgV S md v = body.length
  | .msg fs unk, body, hok, hb => by
    obtain ⟨ops, ho, rfl⟩ := bytesMsgV_ok_msg hb
    rw [sizeMsgV, (fields_exact S md fs ops hok ho).1, List.length_append]
  | .num _, body, _, hb => by cases hb; rfl
  | .bs _, body, _, hb => by cases hb; rfl

theorem msgList_exact (S : Schema) (md : MD) (tag : Nat) (sk : Bool) : ∀ (vs : List V) (ops : List EncOp),
    ValidTag tag → OKMsgList S md vs → opsMsgList S md tag sk vs = .ok ops →
    sizeMsgList S md tag sk vs = (wiresOf ops).length ∧ ∀ op ∈ ops, OpExact op
  | [], ops, _, _, ho => by
    cases ho; exact Exact.nil
  | v :: vs, ops, ht, hok, ho => by
    rw [sizeMsgList]
    by_cases hn : (sk && nilEntry md v) = true
    · -- a nil-valued entry of a message-valued map: nothing counted, nothing written
      rw [opsMsgList_cons, if_pos hn] at ho
      rw [if_pos hn, Nat.zero_add]
      exact msgList_exact S md tag sk vs ops ht hok.2 ho
    · obtain ⟨body, rest, hb, hr, rfl⟩ := opsMsgList_ok_cons (Bool.eq_false_iff.mpr hn) ho
      rw [if_neg hn, msgV_exact S md v body hok.1 hb]
      exact Exact.cons (nested_wire_length tag body ht).symm ⟨rfl, body, rfl, rfl⟩
        (msgList_exact S md tag sk vs rest ht hok.2 hr)
end

/-- **the calls of `MarshalTo`, then `EncodeRaw(unknown)`, on any buffer of exactly `Size()` bytes**: no panic, the
    cursor ends at the end, and the buffer holds the fields' wire bytes followed by the unknown fields, whatever
    it held before -/
theorem run_fills (S : Schema) (md : MD) (fs : List F) (unk : Bytes) (ops : List EncOp)
    (hok : OKFields S md fs) (ho : opsFields S md fs = .ok ops) (e : Enc) (hoff : e.off = 0)
    (hcap : e.cap = sizeFields S md fs + unk.length) :
    ∃ e', e.run (ops ++ [.raw unk]) = .ok e' ∧ e'.off = e'.cap ∧ e'.cap = e.cap ∧ e'.buf = wiresOf ops ++ unk := by
  obtain ⟨hs, hx⟩ := fields_exact S md fs ops hok ho
  have hw : wiresOf (ops ++ [.raw unk]) = wiresOf ops ++ unk := by simp [wiresOf, EncOp.wire]
  obtain ⟨e', hr, ha⟩ := run_exact (ops ++ [.raw unk]) e
    (fun op hop => (List.mem_append.mp hop).elim (hx op) fun h => List.mem_singleton.mp h ▸ trivial)
    (by unfold Enc.Room; rw [hw, List.length_append, hoff, hcap, hs]; omega)
  have hfull : e'.off = e'.cap := by rw [ha.off, ha.cap, hw, List.length_append, hoff, hcap, hs]; omega
  refine ⟨e', hr, hfull, ha.cap, ?_⟩
  rw [← Enc.written_full hfull, ha.written, hw, Enc.written, hoff]
  rfl

mutual
theorem opsFields_no_panic (S : Schema) : ∀ (md : MD) (fs : List F), opsFields S md fs ≠ .panic
  | [], _ => by rw [opsFields_nil (Or.inl rfl)]; nofun
  | _ :: _, [] => by rw [opsFields_nil (Or.inr rfl)]; nofun
  | fd :: md, f :: fs => by
    rw [opsFields_cons]
    exact Res.bind_map_ne_panic (opsField_no_panic S fd f) (opsFields_no_panic S md fs)
theorem opsField_no_panic (S : Schema) (fd : FD) : ∀ (f : F), opsField S fd f ≠ .panic
  | .unset => by rw [opsField]; split <;> nofun
  | .one v => by
    cases hty : fd.ty with
    | sc k => rw [opsField_one_sc S hty]; nofun
    | msg i => rw [opsField_one_msg S hty]; exact Res.map_ne_panic (bytesMsgV_no_panic S (S.md i) v)
  | .many vs => by
    cases hty : fd.ty with
    | sc k => rw [opsField_many_sc S hty]; nofun
    | msg i => rw [opsField_many_msg S hty]; exact opsMsgList_no_panic S (S.md i) fd.num fd.card.isMap vs
theorem bytesMsgV_no_panic (S : Schema) (md : MD) : ∀ (v : V), bytesMsgV S md v ≠ .panic
  | .msg fs unk => by rw [bytesMsgV_msg]; exact Res.map_ne_panic (opsFields_no_panic S md fs)
  | .num _ => nofun
  | .bs _ => nofun
theorem opsMsgList_no_panic (S : Schema) (md : MD) (tag : Nat) (sk : Bool) :
    ∀ (vs : List V), opsMsgList S md tag sk vs ≠ .panic
  | [] => nofun
  | v :: vs => by
    rw [opsMsgList_cons]
    split
    · exact opsMsgList_no_panic S md tag sk vs
    · exact Res.bind_map_ne_panic (bytesMsgV_no_panic S md v) (opsMsgList_no_panic S md tag sk vs)
end

theorem isMap_of_ne {c : Card} (h : c ≠ .map) : c.isMap = false := by
  cases c <;> first | rfl | exact absurd rfl h
theorem isMap_of_eq {c : Card} (h : c = .map) : c.isMap = true := by subst h; rfl

/-- only an entry whose value position holds the nil pointer is passed over -/
theorem nilEntry_set (md : MD) (f0 : F) (v : V) (rest : List F) (u : Bytes) :
    nilEntry md (.msg (f0 :: .one v :: rest) u) = false := by simp [nilEntry, valUnset]

end Csproto.Gen
