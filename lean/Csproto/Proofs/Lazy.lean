import Csproto.Model.Lazy
import Csproto.Proofs.Records
/-
  The single pass of lazyproto over a well-formed message is `applyRec` folded over its records.
-/
namespace Csproto

theorem idxOf?_eq_some_iff {xs : List Nat} {x i : Nat} : idxOf? xs x = some i ↔ xs.idxOf x = i ∧ i < xs.length := by
  unfold idxOf?
  dsimp only
  split
  · rename_i hlt
    exact ⟨fun h => Option.some.inj h ▸ ⟨rfl, hlt⟩, fun h => congrArg some h.1⟩
  · rename_i hge
    exact ⟨nofun, fun h => absurd (h.1 ▸ h.2) hge⟩

theorem idxOf?_eq_none {xs : List Nat} {x : Nat} (h : x ∉ xs) : idxOf? xs x = none := by
  unfold idxOf?
  exact if_neg (by rw [List.idxOf_eq_length h]; exact Nat.lt_irrefl _)

theorem idxOf?_lt {xs : List Nat} {x i : Nat} (h : idxOf? xs x = some i) : i < xs.length :=
  (idxOf?_eq_some_iff.mp h).2

theorem idxOf?_get {xs : List Nat} {x i : Nat} (h : idxOf? xs x = some i) : xs[i]? = some x := by
  obtain ⟨rfl, hlt⟩ := idxOf?_eq_some_iff.mp h
  rw [List.getElem?_eq_getElem hlt, List.getElem_idxOf hlt]

theorem idxOf?_inj {xs : List Nat} {x y i : Nat} (hx : idxOf? xs x = some i) (hy : idxOf? xs y = some i) : x = y :=
  Option.some.inj ((idxOf?_get hx).symm.trans (idxOf?_get hy))

theorem idxOf?_of_nodup {xs : List Nat} (hn : xs.Nodup) {i : Nat} (hi : i < xs.length) : idxOf? xs xs[i] = some i :=
  idxOf?_eq_some_iff.mpr ⟨List.Nodup.idxOf_getElem hn i hi, hi⟩

theorem idxOf?_eq_some_iff_of_nodup {xs : List Nat} (hn : xs.Nodup) {x i : Nat} (hi : i < xs.length) :
    idxOf? xs x = some i ↔ x = xs[i] :=
  ⟨fun h => Option.some.inj ((idxOf?_get h).symm.trans (List.getElem?_eq_getElem hi)), fun h => h ▸ idxOf?_of_nodup hn hi⟩

/-- what the pass does with one record (specification level) -/
def applyRec (flat : List Nat) (fds : List FD) (r : Rec) : List FD :=
  match idxOf? flat r.tag with
  | none => fds
  | some i =>
    match fds[i]? with
    | none => fds
    | some fd => fds.set i { wt := r.wt, data := fd.data ++ [r.chunk] }

def applyRecs (flat : List Nat) (fds : List FD) (rs : List Rec) : List FD := rs.foldl (applyRec flat) fds

/-- no requested tag changes its wire type while data is recorded for it -/
def NoConflict (flat : List Nat) : List FD → List Rec → Prop
  | _, [] => True
  | fds, r :: rs =>
    (∀ i fd, idxOf? flat r.tag = some i → fds[i]? = some fd → fd.data = [] ∨ fd.wt = r.wt) ∧
    NoConflict flat (applyRec flat fds r) rs

theorem applyRec_length (flat : List Nat) (fds : List FD) (r : Rec) : (applyRec flat fds r).length = fds.length := by
  unfold applyRec
  split
  · rfl
  · split <;> simp

theorem drop_key (tag wt : Nat) (ht : tag ≤ maxTagValue) (hw : wt < 8) (body : Bytes) :
    (encTag tag wt ++ body).drop (sizeOfTagKey tag) = body := by
  rw [sizeOfTagKey_eq_length ht hw]; simp

/-- one iteration of the pass on a well-formed record -/
theorem loop_step (flat : List Nat) (r : Rec) (hok : r.OK) (fuel : Nat) (d : Dec) (pre rest : Bytes) (fds : List FD)
    (hAt : d.At pre (r.wire ++ rest)) (hfast : d.fast = true) (hlen : fds.length = flat.length)
    (hnc : ∀ i fd, idxOf? flat r.tag = some i → fds[i]? = some fd → fd.data = [] ∨ fd.wt = r.wt) :
    ∃ d', d'.At (pre ++ r.wire) rest ∧ d'.fast = true ∧
      decodeIntoLoop flat (fuel + 1) d fds = decodeIntoLoop flat fuel d' (applyRec flat fds r) := by
  have hmore : d.off < d.len := Nat.not_le.mp (hAt.not_eof (by simp [Rec.wire_ne_nil r]))
  obtain ⟨hts, hAt1⟩ := Rec.tag_at hok hAt
  have hsk := Rec.skip_at hok hAt
  refine ⟨{ d.afterTag (encTag r.tag r.wt).length with
    off := (d.afterTag (encTag r.tag r.wt).length).off + r.body.length },
    List.append_assoc pre _ _ ▸ hAt1.advance, hfast, ?_⟩
  rw [decodeIntoLoop, if_neg (fun h => h hmore), hts]
  unfold applyRec
  dsimp only
  cases hidx : idxOf? flat r.tag with
  | none => dsimp only; rw [hsk]
  | some i =>
    have hi : i < fds.length := hlen ▸ idxOf?_lt hidx
    have hget : fds[i]? = some fds[i] := List.getElem?_eq_getElem hi
    have hcond : ¬ (¬ (fds[i].data.isEmpty = true) ∧ fds[i].wt ≠ r.wt) := fun hc =>
      (hnc i fds[i] hidx hget).elim (fun h => hc.1 (by rw [h]; rfl)) hc.2
    dsimp only
    rw [hget]
    dsimp only
    rw [if_neg hcond]
    cases r with
    | len t b =>
      rw [if_neg (by simp [Rec.wt, wtLen, wtVarint, wtFixed32, wtFixed64]), if_pos (by rfl), Dec.step_bytes_at hAt1 hok.2.2]
      rfl
    | varint t v | fixed32 t v | fixed64 t v =>
      -- the value recorded for a varint / fixed field: `data[start:dec.Offset()]`, from the end of the key to the end of the field
      rw [if_pos (by simp [Rec.wt]), hsk]
      dsimp only
      rw [hAt1.rest_eq, Nat.add_sub_cancel_left, List.take_left]
      rfl

/-- **the pass computes `applyRecs`** on every well-formed message -/
theorem loop_records (flat : List Nat) (rs : List Rec) (hok : ∀ r ∈ rs, r.OK) :
    ∀ (fuel : Nat) (d : Dec) (pre : Bytes) (fds : List FD), rs.length < fuel → d.At pre (wiresOf rs) →
      d.fast = true → fds.length = flat.length → NoConflict flat fds rs →
      decodeIntoLoop flat fuel d fds = .ok (applyRecs flat fds rs) := by
  induction rs with
  | nil =>
    intro fuel d pre fds hf hAt _ _ _
    match fuel, hf with
    | fuel + 1, _ =>
      simp [decodeIntoLoop, Dec.At.eof hAt, applyRecs]
  | cons r rs ih =>
    intro fuel d pre fds hf hAt hfast hlen hnc
    match fuel, hf with
    | fuel + 1, hf =>
      rw [wiresOf_cons] at hAt
      obtain ⟨d', hAt', hfast', hstep⟩ := loop_step flat r (hok r (by simp)) fuel d pre (wiresOf rs) fds hAt hfast hlen hnc.1
      rw [hstep]
      have := ih (fun q hq => hok q (by simp [hq])) fuel d' (pre ++ r.wire) (applyRec flat fds r)
        (by simp at hf; omega) hAt' hfast' (by rw [applyRec_length, hlen]) hnc.2
      rw [this]; rfl

end Csproto
