import Csproto.Model.Dec
import Csproto.Proofs.Wire
import Csproto.Proofs.Total
/-
  The Decoder model with its cursor in front of an encoding `x` inside a buffer `pre ++ x ++ post`: each method
  returns the encoded value and stops behind `x`.
-/
namespace Csproto

/-- the decoder's cursor sits right after `pre`, and `rest` is what remains -/
structure Dec.At (d : Dec) (pre rest : Bytes) : Prop where
  p : d.p = pre ++ rest
  off : d.off = pre.length

theorem Dec.At.rest_eq {d : Dec} {pre rest : Bytes} (h : d.At pre rest) : d.p.drop d.off = rest := by
  rw [h.p, h.off, List.drop_left]

theorem Dec.At.len {d : Dec} {pre rest : Bytes} (h : d.At pre rest) : d.len = pre.length + rest.length := by
  unfold Dec.len; rw [h.p, List.length_append]

theorem Dec.At.inv {d : Dec} {pre rest : Bytes} (h : d.At pre rest) : d.Inv := by
  unfold Dec.Inv
  rw [h.len, h.off]
  omega

theorem Dec.At.slice {d : Dec} {pre rest : Bytes} (h : d.At pre rest) : sliceFrom d.p d.off = .ok rest := by
  rw [sliceFrom_ok h.inv, h.rest_eq]

theorem Dec.At.advance {d : Dec} {pre x post : Bytes} (h : d.At pre (x ++ post)) :
    Dec.At { d with off := d.off + x.length } (pre ++ x) post :=
  ⟨by simp [h.p], by simp [h.off]⟩

theorem Dec.At.not_eof {d : Dec} {pre rest : Bytes} (h : d.At pre rest) (hne : rest ≠ []) : ¬ (d.off ≥ d.len) := by
  rw [h.len, h.off]
  have : 0 < rest.length := List.length_pos_iff.mpr hne
  omega

theorem Dec.At.eof {d : Dec} {pre : Bytes} (h : d.At pre []) : ¬ d.off < d.len := by
  rw [h.len, h.off]; exact Nat.lt_irrefl _

theorem Dec.new_at (b : Bytes) : (Dec.new b).At [] b := ⟨rfl, rfl⟩

theorem elVarint_enc (v : Nat) (hv : v < two64) (rest : Bytes) :
    elVarint (encVarint v ++ rest) = .ok (v, (encVarint v).length) := by
  unfold elVarint nz
  rw [decodeVarint_encVarint v hv]
  exact if_neg (Nat.ne_of_gt (encVarint_length_pos v))

theorem elBool_enc (b : Bool) (rest : Bytes) : elBool ([boolByte b] ++ rest) = .ok (b, 1) := by
  cases b <;> simp [elBool, elVarint, nz, decodeVarint, boolByte, Res.map]

theorem elUint32_enc (v : Nat) (hv : v < two32) (rest : Bytes) :
    elUint32 (encVarint v ++ rest) = .ok (v, (encVarint v).length) := by
  unfold elUint32
  rw [elVarint_enc v (Nat.lt_trans hv (by decide))]
  exact if_neg (by unfold two32 at hv; omega)

/-- `DecodeInt64` reinterprets whatever 64-bit varint it finds as signed -/
theorem elInt64_encVarint (v : Nat) (hv : v < two64) (rest : Bytes) :
    elInt64 (encVarint v ++ rest) = .ok (toI64 v, (encVarint v).length) := by
  unfold elInt64
  rw [elVarint_enc v hv]
  rfl

theorem elInt64_enc (i : Int) (h : InI64 i) (rest : Bytes) :
    elInt64 (encVarint (toU64 i) ++ rest) = .ok (i, (encVarint (toU64 i)).length) := by
  rw [elInt64_encVarint _ (toU64_lt i), toI64_toU64 h]

theorem elInt32_enc (i : Int) (h : InI32 i) (rest : Bytes) :
    elInt32 (encVarint (toU64 i) ++ rest) = .ok (i, (encVarint (toU64 i)).length) := by
  unfold elInt32
  rw [elVarint_enc _ (toU64_lt i)]
  have : ¬ (i > 2147483647 ∨ i < -2147483648) := by unfold InI32 two31 at h; omega
  simp [toI64_toU64 h.toI64, this]

theorem elFixed32_enc (v : Nat) (h : v < two32) (rest : Bytes) :
    elFixed32 (encFixed32 v ++ rest) = .ok (v, (encFixed32 v).length) := by
  unfold elFixed32 nz
  rw [decodeFixed32_enc v h]
  simp [encFixed32]

theorem elFixed64_enc (v : Nat) (h : v < two64) (rest : Bytes) :
    elFixed64 (encFixed64 v ++ rest) = .ok (v, (encFixed64 v).length) := by
  unfold elFixed64 nz
  rw [decodeFixed64_enc v h]
  simp [encFixed64]

theorem elSint32_enc (i : Int) (h : InI32 i) (rest : Bytes) :
    elSint32 (encZigZag32 i ++ rest) = .ok (i, (encZigZag32 i).length) := by
  unfold elSint32 nz
  rw [decodeZigZag32_enc i h]
  exact if_neg (Nat.ne_of_gt (encVarint_length_pos (zigzag i)))

theorem elSint64_enc (i : Int) (h : InI64 i) (rest : Bytes) :
    elSint64 (encZigZag64 i ++ rest) = .ok (i, (encZigZag64 i).length) := by
  unfold elSint64 nz
  rw [decodeZigZag64_enc i h]
  exact if_neg (Nat.ne_of_gt (encVarint_length_pos (zigzag i)))

theorem Dec.scalar_at {α} {d : Dec} {pre x post : Bytes} (h : d.At pre (x ++ post)) (hx : x ≠ [])
    (elem : Bytes → Res (α × Nat)) (mk : α → Item) (v : α)
    (helem : elem (x ++ post) = .ok (v, x.length)) :
    d.scalar elem mk = ({ d with off := d.off + x.length }, .ok (mk v)) := by
  unfold Dec.scalar
  have hne : x ++ post ≠ [] := by simp [hx]
  simp [h.not_eof hne, h.slice, helem]

/-- a decoder method that is the scalar skeleton around `elem`, on an encoding `x` of `v` -/
theorem Dec.step_scalar_at {α} {d : Dec} {op : DecOp} (elem : Bytes → Res (α × Nat)) (mk : α → Item)
    (hop : ∀ d : Dec, d.step op = withAlloc (d.scalar elem mk) 0)
    {pre x post : Bytes} (h : d.At pre (x ++ post)) (hx : x ≠ []) (v : α)
    (helem : elem (x ++ post) = .ok (v, x.length)) :
    d.step op = ({ d with off := d.off + x.length }, .ok (mk v), 0) := by
  rw [hop, Dec.scalar_at h hx elem mk v helem]; rfl

/-- the decoder right after `DecodeTag` read a key of `n` bytes (cursor advanced, key span recorded) -/
def Dec.afterTag (d : Dec) (n : Nat) : Dec := { d with off := d.off + n, ks := d.off, ke := d.off + n }

@[simp] theorem Dec.afterTag_p (d : Dec) (n : Nat) : (d.afterTag n).p = d.p := rfl
@[simp] theorem Dec.afterTag_off (d : Dec) (n : Nat) : (d.afterTag n).off = d.off + n := rfl
@[simp] theorem Dec.afterTag_fast (d : Dec) (n : Nat) : (d.afterTag n).fast = d.fast := rfl
@[simp] theorem Dec.afterTag_ks (d : Dec) (n : Nat) : (d.afterTag n).ks = d.off := rfl
@[simp] theorem Dec.afterTag_ke (d : Dec) (n : Nat) : (d.afterTag n).ke = d.off + n := rfl
@[simp] theorem Dec.afterTag_len (d : Dec) (n : Nat) : (d.afterTag n).len = d.len := rfl

theorem Dec.At.afterTag {d : Dec} {pre x post : Bytes} (h : d.At pre (x ++ post)) :
    (d.afterTag x.length).At (pre ++ x) post :=
  ⟨by simp [h.p], by simp [h.off]⟩

/-- `DecodeTag`; the state after a success is `afterTag` -/
theorem Dec.step_tag (d : Dec) : d.step .tag =
    if d.off ≥ d.len then (d, .err, 0) else
    match sliceFrom d.p d.off with
    | .ok s =>
      match decodeVarint s with
      | .ok (v, n) =>
        if n < 1 ∨ v < 1 ∨ v >>> 3 > maxTagValue then (d, .err, 0)
        else (d.afterTag n, .ok (.tag (v >>> 3) (v &&& 7)), 0)
      | .err => (d, .err, 0)
      | .panic => (d, .panic, 0)
    | _ => (d, .panic, 0) := rfl

theorem Dec.tag_total (d : Dec) (hi : d.Inv) :
    d.step .tag = (d, .err, 0) ∨
      ∃ v n, d.off + n ≤ d.len ∧ d.step .tag = (d.afterTag n, .ok (.tag (v >>> 3) (v &&& 7)), 0) := by
  generalize hr : d.step .tag = r
  rw [Dec.step_tag] at hr
  by_cases hlt : d.off ≥ d.len
  · rw [if_pos hlt] at hr; exact .inl hr.symm
  · rw [if_neg hlt, sliceFrom_ok hi] at hr
    have hv := decodeVarint_ok (d.p.drop d.off)
    cases hel : decodeVarint (d.p.drop d.off) with
    | err => simp only [hel] at hr; exact .inl hr.symm
    | panic => exact absurd hel hv.1
    | ok x =>
      have hn := hv.2 x.1 x.2 hel
      rw [List.length_drop] at hn
      simp only [hel] at hr
      split at hr
      · exact .inl hr.symm
      · exact .inr ⟨x.1, x.2, Nat.add_le_of_le_sub' hi hn, hr.symm⟩

/-- `DecodeTag` on a canonical key -/
theorem Dec.tag_at {d : Dec} {pre post : Bytes} {tag wt : Nat} (h : d.At pre (encTag tag wt ++ post))
    (h1 : 1 ≤ tag) (ht : tag ≤ maxTagValue) (hw : wt < 8) :
    d.step .tag = (d.afterTag (encTag tag wt).length, .ok (.tag tag wt), 0) := by
  have hs := keyOf_shift ht hw
  have hv1 : ¬ keyOf tag wt < 1 := by rw [keyOf_eq ht hw]; omega
  rw [Dec.step_tag, if_neg (h.not_eof (List.append_ne_nil_of_left_ne_nil (encTag_ne_nil tag wt) post)), h.slice]
  dsimp only
  rw [decodeVarint_encTag ht hw]
  dsimp only
  rw [hs.1, hs.2, if_neg]
  exact fun hc => hc.elim (Nat.not_lt.mpr (encVarint_length_pos _)) fun hc => hc.elim hv1 (Nat.not_lt.mpr ht)

theorem Dec.lenPrefix_at {d : Dec} {pre body post : Bytes} (h : d.At pre (encVarint body.length ++ body ++ post))
    (hl : body.length ≤ maxFieldLen) :
    d.lenPrefix = .ok (pre.length + (encVarint body.length).length, body.length) := by
  have hne : encVarint body.length ++ body ++ post ≠ [] := by simp [encVarint_ne_nil]
  have hl64 : body.length < two64 := Nat.lt_of_le_of_lt hl (by decide)
  have hfit : ¬ (d.off + (encVarint body.length).length + body.length > d.len) := by
    rw [h.len, h.off, List.length_append, List.length_append, Nat.add_assoc]
    exact Nat.not_lt.mpr (Nat.add_le_add_left (Nat.le_add_right ..) _)
  unfold Dec.lenPrefix
  rw [if_neg (h.not_eof hne), h.slice]
  dsimp only
  rw [List.append_assoc, decodeVarint_encVarint _ hl64]
  dsimp only
  rw [if_neg (Nat.ne_of_gt (encVarint_length_pos _)), if_neg (Nat.not_lt.mpr hl), if_neg hfit, h.off]

/-- the payload of a length-delimited field, cut out of the buffer -/
theorem Dec.At.payload {d : Dec} {pre L body post : Bytes} (h : d.At pre (L ++ body ++ post)) :
    (d.p.drop (pre.length + L.length)).take body.length = body := by
  rw [h.p, ← List.length_append, List.append_assoc, ← List.append_assoc, List.drop_left, List.take_left]

theorem Dec.bytes_at {d : Dec} {pre body post : Bytes} (h : d.At pre (encVarint body.length ++ body ++ post))
    (hl : body.length ≤ maxFieldLen) :
    d.bytesOp = ({ d with off := d.off + (encVarint body.length ++ body).length }, .ok (.bytes body)) := by
  unfold Dec.bytesOp
  rw [Dec.lenPrefix_at h hl]
  dsimp only
  rw [h.payload, h.off, List.length_append, Nat.add_assoc]

/-- `DecodeBytes` on a canonical length-delimited payload -/
theorem Dec.step_bytes_at {d : Dec} {pre body post : Bytes} (h : d.At pre (encVarint body.length ++ body ++ post))
    (hl : body.length ≤ maxFieldLen) :
    d.step .bytes = ({ d with off := d.off + (encVarint body.length ++ body).length }, .ok (.bytes body), 0) := by
  show withAlloc d.bytesOp 0 = _
  rw [Dec.bytes_at h hl]; rfl

/-- `DecodeString` in terms of `DecodeBytes` (safe mode copies, hence the allocation) -/
theorem Dec.step_string (d : Dec) : d.step .string =
    if d.off ≥ d.len then (d, .err, 0) else
    match d.bytesOp with
    | (d', .ok (.bytes b)) => (d', .ok (.bytes b), if d.fast then 0 else b.length)
    | (d', o) => (d', o, 0) := rfl

/-- `DecodeString` on a canonical length-delimited payload -/
theorem Dec.step_string_at {d : Dec} {pre body post : Bytes} (h : d.At pre (encVarint body.length ++ body ++ post))
    (hl : body.length ≤ maxFieldLen) :
    d.step .string = ({ d with off := d.off + (encVarint body.length ++ body).length }, .ok (.bytes body),
      if d.fast then 0 else body.length) := by
  have hne : encVarint body.length ++ body ++ post ≠ [] := by simp [encVarint_ne_nil]
  rw [Dec.step_string, if_neg (h.not_eof hne), Dec.bytes_at h hl]

/-- `DecodeNested` in terms of the header of the length-delimited field -/
theorem Dec.step_nested (d : Dec) (succeeds : Bool) : d.step (.nested succeeds) =
    match d.lenPrefix with
    | .ok (start, l) =>
      if succeeds then ({ d with off := start + l }, .ok (.bytes ((d.p.drop start).take l)), 0)
      else (d, .errNested ((d.p.drop start).take l), 0)
    | .err => (d, .err, 0)
    | .panic => (d, .panic, 0) := rfl

/-- on a run of encoded values the loop returns exactly those values and stops right behind them -/
theorem packedLoop_enc {α} (elem : Bytes → Res (α × Nat)) (enc : α → Bytes) (p post : Bytes) (l : Nat) :
    ∀ (vs : List α), (∀ v ∈ vs, ∀ rest, elem (enc v ++ rest) = .ok (v, (enc v).length)) →
      (∀ v ∈ vs, 0 < (enc v).length) →
      ∀ (fuel nRead off : Nat) (acc : List α), vs.length < fuel →
        off ≤ p.length → p.drop off = (vs.map enc).flatten ++ post → nRead + ((vs.map enc).flatten).length = l →
        packedLoop elem p l fuel nRead off acc = (off + ((vs.map enc).flatten).length, .ok (acc.reverse ++ vs)) := by
  intro vs
  induction vs with
  | nil =>
    intro _ _ fuel nRead off acc hf _ _ hl
    match fuel, hf with
    | fuel + 1, _ =>
      have hl : nRead = l := hl
      simp [packedLoop, hl]
  | cons v vs ih =>
    intro henc hpos fuel nRead off acc hf hoff hdrop hl
    match fuel, hf with
    | fuel + 1, hf =>
      have hp := hpos v (List.mem_cons_self ..)
      simp only [List.map_cons, List.flatten_cons, List.length_append, List.append_assoc] at hl hdrop ⊢
      have hlen : p.length - off = (enc v).length + (((vs.map enc).flatten).length + post.length) := by
        rw [← List.length_drop, hdrop, List.length_append, List.length_append]
      have hmore : 0 < p.length - off := hlen ▸ Nat.add_pos_left hp _
      rw [packedLoop, if_pos (hl ▸ Nat.lt_add_of_pos_right (Nat.add_pos_left hp _)),
        if_neg (Nat.not_le.mpr (Nat.lt_of_sub_pos hmore)), sliceFrom_ok hoff, hdrop]
      dsimp only
      rw [henc v (List.mem_cons_self ..)]
      dsimp only
      rw [if_neg (Nat.ne_of_gt hp)]
      -- the loop goes on behind `enc v`, with `v` accumulated: the induction hypothesis at that state
      have hoff' : off + (enc v).length ≤ p.length :=
        Nat.add_le_of_le_sub' hoff (hlen ▸ Nat.le_add_right _ _)
      have hdrop' : p.drop (off + (enc v).length) = (vs.map enc).flatten ++ post := by
        rw [← List.drop_drop, hdrop, List.drop_left]
      have hl' : nRead + (enc v).length + ((vs.map enc).flatten).length = l := by
        rw [Nat.add_assoc]
        exact hl
      have ih' : packedLoop elem p l fuel (nRead + (enc v).length) (off + (enc v).length) (v :: acc)
          = (off + (enc v).length + ((vs.map enc).flatten).length, .ok ((v :: acc).reverse ++ vs)) :=
        ih (fun w hw => henc w (List.mem_cons_of_mem _ hw)) (fun w hw => hpos w (List.mem_cons_of_mem _ hw))
          fuel _ _ _ (Nat.lt_of_succ_lt_succ hf) hoff' hdrop' hl'
      rw [ih']
      simp [Nat.add_assoc]

theorem length_le_flatten {α} (enc : α → Bytes) (vs : List α) (hpos : ∀ v ∈ vs, 0 < (enc v).length) :
    vs.length ≤ ((vs.map enc).flatten).length := by
  induction vs with
  | nil => simp
  | cons v vs ih =>
    have := hpos v (by simp)
    have := ih (fun w hw => hpos w (by simp [hw]))
    simp only [List.map_cons, List.flatten_cons, List.length_append, List.length_cons]
    omega

/-- `DecodePackedX` on a canonical packed field body (`varint(len) ++ elements`) -/
theorem Dec.packed_at {α} {d : Dec} {pre post : Bytes} (elem : Bytes → Res (α × Nat)) (enc : α → Bytes)
    (mk : List α → Item) (vs : List α) (prealloc : Option Nat)
    (henc : ∀ v ∈ vs, ∀ rest, elem (enc v ++ rest) = .ok (v, (enc v).length))
    (hpos : ∀ v ∈ vs, 0 < (enc v).length)
    (hL : ((vs.map enc).flatten).length < two64)
    (h : d.At pre (encVarint ((vs.map enc).flatten).length ++ (vs.map enc).flatten ++ post)) :
    ∃ a, d.packed elem mk prealloc =
      ({ d with off := d.off + (encVarint ((vs.map enc).flatten).length ++ (vs.map enc).flatten).length },
        .ok (mk vs), a) := by
  have hvl := length_le_flatten enc vs hpos
  have hloop := packedLoop_enc elem enc d.p post ((vs.map enc).flatten).length vs henc hpos (d.len + 1) 0
    (d.off + (encVarint ((vs.map enc).flatten).length).length) []
  generalize (vs.map enc).flatten = F at *
  have hne : encVarint F.length ++ F ++ post ≠ [] := by simp [encVarint_ne_nil]
  have hF : F.length + (d.off + (encVarint F.length).length) ≤ d.len := by
    rw [h.len, h.off, List.length_append, List.length_append]; omega
  have hloop := hloop (Nat.lt_succ_of_le (Nat.le_trans hvl (Nat.le_trans (Nat.le_add_right ..) hF)))
    (Nat.le_trans (Nat.le_add_left ..) hF)
    (by rw [← List.drop_drop, h.rest_eq, List.append_assoc, List.drop_left]) (Nat.zero_add _)
  unfold Dec.packed
  rw [if_neg (h.not_eof hne), h.slice]
  dsimp only
  rw [List.append_assoc, elVarint_enc _ hL]
  cases prealloc with
  | none => exact ⟨vs.length, by simp only [hloop, List.reverse_nil, List.nil_append, List.length_append, Nat.add_assoc]⟩
  | some k =>
    exact ⟨F.length / k + vs.length, by
      simp only [Nat.not_lt.mpr (Nat.le_sub_of_add_le hF), if_false, hloop, List.reverse_nil, List.nil_append,
        List.length_append, Nat.add_assoc]⟩

end Csproto
