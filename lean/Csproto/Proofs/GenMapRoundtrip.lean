import Csproto.Proofs.GenNestedRoundtrip
import Csproto.Model.GenMap
/-
  Round trip of messages with map fields, next to everything `roundtrip_nested` covers.

  Marshal-side model (`Model/Gen.lean`): a map field is `Card.map` with `ty = .msg e`, `e` the synthetic entry
  type `[⟨1, key kind, always⟩, ⟨2, value type, always⟩]`; its Go value is `F.many es`, one
  `V.msg [.one key, .one value] []` per entry, IN THE ORDER `range` VISITS THEM (arbitrary).  `Size`
  (`sizeMsgList`) adds `SizeOfTagKey(n) + SizeOfVarint(keySize + valueSize) + keySize + valueSize` per entry
  and `MarshalTo` (`opsMsgList`) writes key `n`, that length, field 1, field 2 — both ALWAYS written
  (`Card.always`), a message-typed value nested.  An entry of a message-valued map whose value is a nil pointer
  (`V.msg [.one key, .unset] []`, `nilEntry`) is passed over by both (`if v != nil` / `if v == nil { continue }`):
  it has no record in the tree below, and `canonFs` — the message after the round trip — does not hold it.

  The record tree of such a message has an `NRec.map` record per entry written (same bytes as `recsFields`) and is
  well formed in the sense of `unmarshal_nested`.  The round trip: for every value whose maps have pairwise
  distinct keys, whatever the order of the entries, `Unmarshal (Marshal m)` is `canonFs m` — every map field
  holds exactly the (normalised) entries, nothing lost, nothing merged (with distinct keys every insertion
  appends) — at any depth (maps inside nested messages, message-valued maps whose values contain maps, …), in
  both decoder modes.  The decoded map is then read as a finite map (`mapGet`), where the order does not occur.
-/
namespace Csproto.Gen
open Csproto Csproto.C01

/-- the record of one element of a repeated message field / one entry of a map field -/
def elemRec (idx : Nat) (fd : FD) (i : Nat) (sub : List NRec) : NRec :=
  if fd.card = .map then .map idx fd i sub else .msg idx fd i sub

mutual
/-- the record tree `Marshal` writes for a message value (maps included) -/
def recsFieldsM (S : Schema) : Nat → MD → List F → List NRec
  | base, fd :: md, f :: fs => recsFieldM S base fd f ++ recsFieldsM S (base + 1) md fs
  | _, _, _ => []
def recsFieldM (S : Schema) (idx : Nat) (fd : FD) : F → List NRec
  | .unset => []
  | .one v =>
    match fd.ty with
    | .sc _ => (fieldRecs idx fd (.one v)).map NRec.flat
    | .msg i => [.msg idx fd i (recsVM S (S.md i) v)]
  | .many vs =>
    match fd.ty with
    | .sc _ => (fieldRecs idx fd (.many vs)).map NRec.flat
    | .msg i => recsListM S idx fd i vs
def recsVM (S : Schema) (md : MD) : V → List NRec
  | .msg fs _ => recsFieldsM S 0 md fs
  | _ => []
def recsListM (S : Schema) (idx : Nat) (fd : FD) (i : Nat) : List V → List NRec
  | [] => []
  | v :: vs =>
    if fd.card.isMap && nilEntry (S.md i) v then recsListM S idx fd i vs
    else elemRec idx fd i (recsVM S (S.md i) v) :: recsListM S idx fd i vs
end

theorem elemRec_of_not_map {fd : FD} (h : fd.card ≠ .map) (idx i : Nat) (sub : List NRec) :
    elemRec idx fd i sub = .msg idx fd i sub := if_neg h
theorem elemRec_of_map {fd : FD} (h : fd.card = .map) (idx i : Nat) (sub : List NRec) :
    elemRec idx fd i sub = .map idx fd i sub := if_pos h

theorem elemRec_wire (idx : Nat) (fd : FD) (i : Nat) (sub : List NRec) :
    (elemRec idx fd i sub).wire = encTag fd.num wtLen ++ encVarint (wiresN sub).length ++ wiresN sub := by
  unfold elemRec; split <;> rfl

section equations
variable (S : Schema) {md : MD} {fd : FD} {i : Nat} {sk : Bool} {v : V}

theorem recsFieldM_sc (idx : Nat) {k : SK} (hty : fd.ty = .sc k) (f : F) :
    recsFieldM S idx fd f = (fieldRecs idx fd f).map NRec.flat := by
  obtain ⟨_, _, _⟩ := fd; cases hty; cases f <;> rfl

theorem recsListM_skip (idx : Nat) (vs : List V) (h : (fd.card.isMap && nilEntry (S.md i) v) = true) :
    recsListM S idx fd i (v :: vs) = recsListM S idx fd i vs := if_pos h
theorem recsListM_live (idx : Nat) (vs : List V) (h : (fd.card.isMap && nilEntry (S.md i) v) = false) :
    recsListM S idx fd i (v :: vs) = elemRec idx fd i (recsVM S (S.md i) v) :: recsListM S idx fd i vs :=
  if_neg (by simp [h])
theorem canonVs_skip (vs : List V) (h : (sk && nilEntry md v) = true) : canonVs S md sk (v :: vs) = canonVs S md sk vs :=
  if_pos h
theorem canonVs_live (vs : List V) (h : (sk && nilEntry md v) = false) :
    canonVs S md sk (v :: vs) = canonV S md v :: canonVs S md sk vs := if_neg (by simp [h])

end equations

mutual
/-- a map record and a message record have the same wire form -/
theorem wires_recsFieldsM (S : Schema) : ∀ (base : Nat) (md : MD) (fs : List F),
    wiresN (recsFieldsM S base md fs) = wiresN (recsFields S base md fs)
  | _, [], [] => rfl
  | _, [], _ :: _ => rfl
  | _, _ :: _, [] => rfl
  | base, fd :: md, f :: fs => by
    show wiresN (_ ++ _) = wiresN (_ ++ _)
    rw [wiresN_append, wiresN_append, wires_recsFieldM S base fd f, wires_recsFieldsM S (base + 1) md fs]
theorem wires_recsFieldM (S : Schema) (idx : Nat) (fd : FD) : ∀ (f : F),
    wiresN (recsFieldM S idx fd f) = wiresN (recsField S idx fd f)
  | .unset => rfl
  | .one v => by
    obtain ⟨num, ty, card⟩ := fd
    cases ty with
    | sc k => rfl
    | msg i =>
      show (_ ++ _ ++ wiresN (recsVM S (S.md i) v)) ++ [] = (_ ++ _ ++ wiresN (recsV S (S.md i) v)) ++ []
      rw [wires_recsVM S (S.md i) v]
  | .many vs => by
    obtain ⟨num, ty, card⟩ := fd
    cases ty with
    | sc k => rfl
    | msg i => exact wires_recsListM S idx _ i vs
theorem wires_recsVM (S : Schema) (md : MD) : ∀ (v : V), wiresN (recsVM S md v) = wiresN (recsV S md v)
  | .msg fs _ => wires_recsFieldsM S 0 md fs
  | .num _ => rfl
  | .bs _ => rfl
theorem wires_recsListM (S : Schema) (idx : Nat) (fd : FD) (i : Nat) : ∀ (vs : List V),
    wiresN (recsListM S idx fd i vs) = wiresN (recsList S idx fd i vs)
  | [] => rfl
  | v :: vs => by
    cases hn : (fd.card.isMap && nilEntry (S.md i) v)
    · rw [recsListM_live S idx vs hn, show recsList S idx fd i (v :: vs) = _ from if_neg (by simp [hn]), wiresN_cons,
        wiresN_cons, elemRec_wire, wires_recsVM S (S.md i) v, wires_recsListM S idx fd i vs]
      rfl
    · rw [recsListM_skip S idx vs hn, show recsList S idx fd i (v :: vs) = _ from if_pos hn, wires_recsListM S idx fd i vs]
end

/-- what `Marshal` writes is the wire form of the record tree with map-entry records -/
theorem ops_recsFieldsM (S : Schema) (md : MD) (fs : List F) (ops : List EncOp)
    (hok : OKFields S md fs) (hcl : CleanFs fs) (ho : opsFields S md fs = .ok ops) :
    wiresOf ops = wiresN (recsFieldsM S 0 md fs) := by
  rw [wires_recsFieldsM, ops_recsFields S 0 md fs ops hok hcl ho]

/-- distinct field numbers everywhere; a map field refers to an entry type -/
def SchemaOKM (S : Schema) : Prop :=
  ∀ i, NoDupNums (S.md i) ∧ ∀ fd ∈ S.md i, fd.card = .map → ∃ e kk vty, fd.ty = .msg e ∧ S.md e = entryMD kk vty

/-- the kind of the key of an entry type -/
def keyKind (emd : MD) : SK :=
  match emd with
  | fd :: _ => kindOf fd
  | [] => .bool

/-- the key of an entry as the Go map sees it: normalised to the key type's width -/
def canonKey (emd : MD) (e : V) : V := decodedV (keyKind emd) (entryKey e)

/-- a Go map has pairwise distinct keys (in whatever order `range` delivers the entries) -/
def KeysDistinct (emd : MD) (es : List V) : Prop :=
  es.Pairwise fun a b => keyEq (canonKey emd a) (canonKey emd b) = false

/-- no field of the entry is unset: an entry of an entry type has a key and a value -/
def EntrySet : V → Prop
  | .msg fs _ => ∀ f ∈ fs, f ≠ F.unset
  | _ => False

/-- an entry as a Go map holds it: key and value, or — in a message-valued map — key and nil pointer (which
    the generated code does not write) -/
def EntryOK (emd : MD) (e : V) : Prop := EntrySet e ∨ nilEntry emd e = true

/-- what the schema says about a map field -/
abbrev MapRef (S : Schema) (fd : FD) : Prop :=
  fd.card = .map → ∃ e kk vty, fd.ty = .msg e ∧ S.md e = entryMD kk vty

mutual
def WFsM (S : Schema) : MD → List F → Prop
  | fd :: md, f :: fs => WFfM S fd f ∧ WFsM S md fs
  | [], [] => True
  | _, _ => False
def WFfM (S : Schema) (fd : FD) : F → Prop
  | .unset => True
  | .one v =>
    match fd.ty with
    | .sc _ => ShapeOK fd (.one v) ∧ ValOK fd (.one v) ∧ CleanV v
    | .msg i => isRep fd.card = false ∧ fd.card ≠ .map ∧ ValidTag fd.num ∧ WFvM S (S.md i) v
  | .many vs =>
    match fd.ty with
    | .sc _ => ShapeOK fd (.many vs) ∧ ValOK fd (.many vs) ∧ CleanVs vs
    | .msg i =>
      (fd.card = .list ∨ (fd.card = .map ∧ (∀ e ∈ vs, EntryOK (S.md i) e) ∧ KeysDistinct (S.md i) vs)) ∧
        ValidTag fd.num ∧ WFvsM S (S.md i) vs
def WFvM (S : Schema) (md : MD) : V → Prop
  | .msg fs unk => unk = [] ∧ WFsM S md fs ∧ (wiresN (recsFieldsM S 0 md fs)).length ≤ maxFieldLen ∧ Excl md fs
  | _ => False
def WFvsM (S : Schema) (md : MD) : List V → Prop
  | [] => True
  | v :: vs => WFvM S md v ∧ WFvsM S md vs
end

theorem wffM_sc {S : Schema} {fd : FD} {k : SK} (hty : fd.ty = .sc k) {f : F} (h : WFfM S fd f) :
    ShapeOK fd f ∧ ValOK fd f ∧ CleanF f := by
  obtain ⟨_, _, _⟩ := fd; cases hty
  cases f with
  | unset => exact ⟨trivial, trivial, trivial⟩
  | one v => exact h
  | many vs => exact h

theorem recVM_len (S : Schema) (md : MD) (v : V) (h : WFvM S md v) : (wiresN (recsVM S md v)).length ≤ maxFieldLen :=
  match v, h with
  | .msg _ _, h => h.2.2.1

theorem wfsM_len (S : Schema) : ∀ (md : MD) (fs : List F), WFsM S md fs → md.length = fs.length
  | [], [], _ => rfl
  | [], _ :: _, h => h.elim
  | _ :: _, [], h => h.elim
  | _ :: md, _ :: fs, h => congrArg (· + 1) (wfsM_len S md fs h.2)

theorem wfsM_get (S : Schema) : ∀ (md : MD) (fs : List F) (j : Nat) (fd : FD), WFsM S md fs →
    md[j]? = some fd → WFfM S fd (fs[j]?.getD .unset)
  | [], _, _, _, _, h => by simp at h
  | _ :: _, [], _, _, h, _ => h.elim
  | _ :: _, _ :: _, 0, _, hwf, h => by cases h; exact hwf.1
  | _ :: md, _ :: fs, j + 1, fd, hwf, h => wfsM_get S md fs j fd hwf.2 h

theorem wfvsM_mem (S : Schema) (md : MD) : ∀ (vs : List V), WFvsM S md vs → ∀ y ∈ vs, WFvM S md y
  | [], _, _, hy => by simp at hy
  | _ :: vs, h, y, hy => by
    rcases List.mem_cons.mp hy with rfl | hy'
    · exact h.1
    · exact wfvsM_mem S md vs h.2 y hy'

mutual
/-- well-formed values carry no unknown fields below the top level -/
theorem wfsM_clean (S : Schema) : ∀ (md : MD) (fs : List F), WFsM S md fs → CleanFs fs
  | [], [], _ => trivial
  | [], _ :: _, h => h.elim
  | _ :: _, [], _ => trivial
  | fd :: md, f :: fs, h => ⟨wffM_clean S fd f h.1, wfsM_clean S md fs h.2⟩
theorem wffM_clean (S : Schema) (fd : FD) : ∀ (f : F), WFfM S fd f → CleanF f := fun f h => by
  obtain ⟨num, ty, card⟩ := fd
  cases ty with
  | sc k => exact (wffM_sc rfl h).2.2
  | msg i =>
    cases f with
    | unset => trivial
    | one v => exact wfvM_clean S (S.md i) v h.2.2.2
    | many vs => exact wfvsM_clean S (S.md i) vs h.2.2
theorem wfvM_clean (S : Schema) (md : MD) : ∀ (v : V), WFvM S md v → CleanV v
  | .msg fs _, h => ⟨h.1, wfsM_clean S md fs h.2.1⟩
  | .num _, _ => trivial
  | .bs _, _ => trivial
theorem wfvsM_clean (S : Schema) (md : MD) : ∀ (vs : List V), WFvsM S md vs → CleanVs vs
  | [], _ => trivial
  | v :: vs, h => ⟨wfvM_clean S md v h.1, wfvsM_clean S md vs h.2⟩
end

theorem OKsE_append (S : Schema) (emd : MD) (a b : List NRec) : OKsE S emd (a ++ b) ↔ OKsE S emd a ∧ OKsE S emd b := by
  induction a with
  | nil => exact ⟨fun h => ⟨trivial, h⟩, fun h => h.2⟩
  | cons r a ih => show _ ∧ OKsE S emd (a ++ b) ↔ (_ ∧ _) ∧ _; rw [ih, and_assoc]

theorem findField_entry_key (kk : SK) (vty : Ty) :
    findField (entryMD kk vty) 1 0 = some (0, ⟨1, .sc kk, .always⟩) := rfl
theorem findField_entry_val (kk : SK) (vty : Ty) :
    findField (entryMD kk vty) 2 0 = some (1, ⟨2, vty, .always⟩) := rfl

/-- a scalar field of an entry (the key; the value of a scalar-valued map) holds one value unless it is unset -/
theorem wffM_always_sc {S : Schema} {n : Nat} {k : SK} {f : F} (hwf : WFfM S ⟨n, .sc k, .always⟩ f) (hne : f ≠ .unset) :
    ∃ v, f = .one v := by
  cases f with
  | unset => exact absurd rfl hne
  | one v => exact ⟨v, rfl⟩
  | many vs => exact nomatch hwf.1.1

theorem recEsc_okM {S : Schema} {emd : MD} {idx n : Nat} {k : SK} {f : F}
    (hfind : findField emd n 0 = some (idx, ⟨n, .sc k, .always⟩)) (hwf : WFfM S ⟨n, .sc k, .always⟩ f) :
    OKsE S emd (recsFieldM S idx ⟨n, .sc k, .always⟩ f) := by
  cases f with
  | unset => trivial
  | one v => exact ⟨⟨hfind, rfl, hwf.2.1.1, hwf.2.1.2, rfl⟩, trivial⟩
  | many vs => exact nomatch hwf.1.1

mutual
/-- the record tree of a well-formed value is well formed (map entries: `NRec.map` records whose payload
    is a sequence of well-formed entry records) -/
theorem recs_okM (S : Schema) (hS : SchemaOKM S) (mdAll : MD) (hnd : NoDupNums mdAll)
    (hmap : ∀ fd ∈ mdAll, MapRef S fd) :
    ∀ (md : MD) (fs : List F) (pre : MD), mdAll = pre ++ md →
    WFsM S md fs → OKs S mdAll (recsFieldsM S pre.length md fs)
  | [], [] => fun _ _ _ => trivial
  | [], _ :: _ => fun _ _ h => h.elim
  | _ :: _, [] => fun _ _ h => h.elim
  | fd :: md, f :: fs => fun pre heq hwf => by
    have hfind : findField mdAll fd.num 0 = some (pre.length, fd) := by rw [heq]; exact findField_at pre fd md (heq ▸ hnd)
    have := recs_okM S hS mdAll hnd hmap md fs (pre ++ [fd]) (heq.trans (List.append_cons ..)) hwf.2
    rw [List.length_append] at this
    exact (OKs_append ..).mpr ⟨recField_okM S hS mdAll fd pre.length hfind (hmap fd (by simp [heq])) f hwf.1, this⟩
theorem recField_okM (S : Schema) (hS : SchemaOKM S) (mdAll : MD) (fd : FD) (idx : Nat)
    (hfind : findField mdAll fd.num 0 = some (idx, fd))
    (hmap : fd.card = .map → ∃ e kk vty, fd.ty = .msg e ∧ S.md e = entryMD kk vty) : ∀ (f : F), WFfM S fd f →
    OKs S mdAll (recsFieldM S idx fd f) := fun f hwf => by
  obtain ⟨num, ty, card⟩ := fd
  cases ty with
  | sc k =>
    rw [recsFieldM_sc S idx rfl]
    exact OKs_flat S mdAll _ (fieldRecs_ok mdAll idx _ f hfind rfl (wffM_sc rfl hwf).1 (wffM_sc rfl hwf).2.1)
  | msg i =>
    cases f with
    | unset => trivial
    | one v =>
      obtain ⟨_, hnm, htag, hv⟩ := hwf
      exact ⟨⟨hfind, rfl, htag, hnm, recVM_len S (S.md i) v hv, recV_okM S hS (S.md i) v hv ⟨i, rfl⟩⟩, trivial⟩
    | many vs =>
      obtain ⟨hc, htag, hvs⟩ := hwf
      rcases hc with hl | ⟨hm, _, _⟩
      · exact recList_okM S hS mdAll _ idx i hfind rfl htag hl vs hvs
      · obtain ⟨e, kk, vty, hte, hemd⟩ := hmap hm
        cases hte
        exact recMap_okM S hS mdAll _ idx i hfind rfl htag hm kk vty hemd vs hvs
theorem recV_okM (S : Schema) (hS : SchemaOKM S) (md : MD) : ∀ (v : V), WFvM S md v →
    (∃ i, md = S.md i) → OKs S md (recsVM S md v)
  | .msg fs _ => fun hwf ⟨i, hi⟩ => by
    subst hi
    exact recs_okM S hS (S.md i) (hS i).1 (hS i).2 (S.md i) fs [] rfl hwf.2.1
  | .num _ => fun hwf _ => hwf.elim
  | .bs _ => fun hwf _ => hwf.elim
theorem recList_okM (S : Schema) (hS : SchemaOKM S) (mdAll : MD) (fd : FD) (idx i : Nat)
    (hfind : findField mdAll fd.num 0 = some (idx, fd)) (hty : fd.ty = .msg i) (htag : ValidTag fd.num)
    (hl : fd.card = .list) : ∀ (vs : List V), WFvsM S (S.md i) vs → OKs S mdAll (recsListM S idx fd i vs)
  | [] => fun _ => trivial
  | v :: vs => fun hwf => by
    obtain ⟨num, ty, card⟩ := fd
    cases hl
    exact ⟨⟨hfind, hty, htag, nofun, recVM_len S (S.md i) v hwf.1, recV_okM S hS (S.md i) v hwf.1 ⟨i, rfl⟩⟩,
      recList_okM S hS mdAll _ idx i hfind hty htag rfl vs hwf.2⟩
theorem recMap_okM (S : Schema) (hS : SchemaOKM S) (mdAll : MD) (fd : FD) (idx i : Nat)
    (hfind : findField mdAll fd.num 0 = some (idx, fd)) (hty : fd.ty = .msg i) (htag : ValidTag fd.num)
    (hm : fd.card = .map) (kk : SK) (vty : Ty) (hemd : S.md i = entryMD kk vty) :
    ∀ (vs : List V), WFvsM S (S.md i) vs → OKs S mdAll (recsListM S idx fd i vs)
  | [] => fun _ => trivial
  | v :: vs => fun hwf => by
    have ih := recMap_okM S hS mdAll fd idx i hfind hty htag hm kk vty hemd vs hwf.2
    obtain ⟨num, ty, card⟩ := fd
    cases hm
    cases hn : nilEntry (S.md i) v
    · rw [recsListM_live S idx (fd := ⟨_, _, .map⟩) vs hn]
      refine ⟨⟨hfind, hty, htag, rfl, recVM_len S (S.md i) v hwf.1, ?_⟩, ih⟩
      have h1 := hwf.1
      rw [hemd] at h1 ⊢
      exact recE_okM S hS kk vty v h1
    · rw [recsListM_skip S idx (fd := ⟨_, _, .map⟩) vs hn]; exact ih
theorem recE_okM (S : Schema) (hS : SchemaOKM S) (kk : SK) (vty : Ty) : ∀ (e : V), WFvM S (entryMD kk vty) e →
    OKsE S (entryMD kk vty) (recsVM S (entryMD kk vty) e)
  | .msg fs _ => fun hwf => recEs_okM S hS kk vty fs hwf.2.1
  | .num _ => fun hwf => hwf.elim
  | .bs _ => fun hwf => hwf.elim
theorem recEs_okM (S : Schema) (hS : SchemaOKM S) (kk : SK) (vty : Ty) : ∀ (fs : List F), WFsM S (entryMD kk vty) fs →
    OKsE S (entryMD kk vty) (recsFieldsM S 0 (entryMD kk vty) fs)
  | [] => fun h => h.elim
  | [_] => fun h => h.2.elim
  | _ :: _ :: _ :: _ => fun h => h.2.2.elim
  | [fk, fv] => fun h => by
    show OKsE S _ (recsFieldM S 0 _ fk ++ (recsFieldM S 1 _ fv ++ []))
    rw [List.append_nil, OKsE_append]
    exact ⟨recEsc_okM (findField_entry_key kk vty) h.1, recEv_okM S hS kk vty fv h.2.1⟩
theorem recEv_okM (S : Schema) (hS : SchemaOKM S) (kk : SK) (vty : Ty) : ∀ (f : F), WFfM S ⟨2, vty, .always⟩ f →
    OKsE S (entryMD kk vty) (recsFieldM S 1 ⟨2, vty, .always⟩ f) := fun f hwf => by
  cases vty with
  | sc k => exact recEsc_okM (findField_entry_val kk _) hwf
  | msg j =>
    cases f with
    | unset => trivial
    | one v =>
      obtain ⟨_, _, htag, hv⟩ := hwf
      exact ⟨⟨findField_entry_val kk _, rfl, htag, nofun, nofun, recVM_len S (S.md j) v hv,
        recV_okM S hS (S.md j) v hv ⟨j, rfl⟩⟩, trivial⟩
    | many vs => exact nomatch hwf.1
end

/-- `m[k] = v` for a key the map does not hold yet: a new entry -/
theorem mapInsert_fresh (e : V) : ∀ (acc : List V), (∀ x ∈ acc, keyEq (entryKey x) (entryKey e) = false) →
    mapInsert e acc = acc ++ [e]
  | [], _ => rfl
  | x :: xs, h => by
    show (if keyEq (entryKey x) (entryKey e) then _ else _) = _
    rw [h x (by simp), mapInsert_fresh e xs fun y hy => h y (by simp [hy])]; rfl

theorem foldE_append (S : Schema) (emd : MD) : ∀ (a b : List NRec) (efs efs' : List F),
    foldE S emd a efs = .ok efs' → foldE S emd (a ++ b) efs = foldE S emd b efs'
  | [], b, efs, efs', h => by cases h; rfl
  | r :: a, b, efs, efs', h => by
    change (match r.applyE S efs with | .ok s1 => foldE S emd a s1 | .err => _ | .panic => _) = _ at h
    show (match r.applyE S efs with | .ok s1 => foldE S emd (a ++ b) s1 | .err => _ | .panic => _) = _
    cases hr : r.applyE S efs with
    | ok s1 => rw [hr] at h; exact foldE_append S emd a b s1 efs' h
    | _ => rw [hr] at h; cases h

theorem canonKey_entry (kk : SK) (vty : Ty) (k : V) (f : F) (unk : Bytes) :
    canonKey (entryMD kk vty) (.msg [.one k, f] unk) = decodedV kk k := rfl

theorem applyN_map {S : Schema} {md : MD} {idx i num : Nat} {ty : Ty} {sub : List NRec} {efs fs : List F} {acc : List V}
    (unk : Bytes) (hcur : fs.getD idx .unset = .many acc) (hd : foldE S (S.md i) sub (initFields (S.md i)) = .ok efs)
    (hfill : fillEntry S (S.md i) efs = efs) (hfr : ∀ x ∈ acc, keyEq (entryKey x) (entryKey (.msg efs [])) = false) :
    (NRec.map idx ⟨num, ty, .map⟩ i sub).applyN S md (fs, unk) = .ok (fs.set idx (.many (acc ++ [.msg efs []])), unk) := by
  show (match foldE S (S.md i) sub (initFields (S.md i)) with | .ok efs => _ | .err => _ | .panic => _) = _
  rw [hd]
  show Res.ok (fs.set idx (match fs.getD idx .unset with | .many es => _ | _ => _), unk) = _
  simp only [hcur, hfill, mapInsert_fresh _ acc hfr]

mutual
/-- folding the records of the remaining fields `fs`, from the state in which the fields `preFs` before them are
    decoded and the others reset -/
theorem fold_fieldsM (S : Schema) (hS : SchemaOKM S) (mdAll : MD) (fsAll : List F) (unk : Bytes)
    (hex : Excl mdAll fsAll) (hmapAll : ∀ fd ∈ mdAll, MapRef S fd) :
    ∀ (md : MD) (fs : List F) (preMd : MD) (preFs : List F) (ops : List EncOp),
    mdAll = preMd ++ md → fsAll = preFs ++ fs → preMd.length = preFs.length →
    WFsM S md fs → opsFields S md fs = .ok ops →
    foldN S mdAll (recsFieldsM S preMd.length md fs) (canonFs S mdAll preFs, unk) = .ok (canonFs S mdAll fsAll, unk)
  | [], [] => fun _ _ _ _ hfs _ _ _ => by rw [hfs, List.append_nil]; rfl
  | [], _ :: _ => fun _ _ _ _ _ _ h _ => h.elim
  | _ :: _, [] => fun _ _ _ _ _ _ h _ => h.elim
  | fd :: md, f :: fs => fun preMd preFs ops hmd hfs hpl hwf ho => by
    obtain ⟨a, b, ha, hb, -⟩ := opsFields_ok_cons ho
    have hfd : mdAll[preFs.length]? = some fd := by simp [hmd, ← hpl]
    have hlt : preFs.length < (canonFs S mdAll preFs).length := by
      rw [length_canonFs]; exact (List.getElem?_eq_some_iff.mp hfd).1
    have h1 := fold_fieldM S hS mdAll preFs.length fd (hmapAll fd (by simp [hmd])) f a (canonFs S mdAll preFs) unk
      (assignPlain_canon S hex hfs hfd) hlt (canonFs_getD_next S preFs hfd) hwf.1 ha
    have h2 := fold_fieldsM S hS mdAll fsAll unk hex hmapAll md fs (preMd ++ [fd]) (preFs ++ [f]) b
      (hmd.trans (List.append_cons ..)) (hfs.trans (List.append_cons ..))
      (by rw [List.length_append, List.length_append, hpl]; rfl) hwf.2 hb
    rw [List.length_append] at h2
    show foldN S mdAll (_ ++ _) _ = _
    rw [hpl, foldN_append S mdAll _ _ _ _ h1, canonFs_set_snoc S f preFs hfd, ← hpl]
    exact h2
termination_by structural _ fs => fs

theorem fold_fieldM (S : Schema) (hS : SchemaOKM S) (mdAll : MD) (idx : Nat) (fd : FD) (hmap : MapRef S fd) :
    ∀ (f : F) (ops : List EncOp) (fs : List F) (unk : Bytes), (f ≠ .unset → AssignPlain mdAll fd idx fs) →
    idx < fs.length → fs.getD idx .unset = initField fd →
    WFfM S fd f → opsField S fd f = .ok ops →
    foldN S mdAll (recsFieldM S idx fd f) (fs, unk) = .ok (fs.set idx (canonF S fd f), unk) :=
  fun f ops fs unk hap hlt hcur hwf ho => by
  cases f with
  | unset => show Res.ok _ = Res.ok (fs.set idx (initField fd), unk); rw [set_getD_self fs idx _ hlt hcur]
  | one v =>
    have hap := hap nofun
    obtain ⟨num, ty, card⟩ := fd
    cases ty with
    | sc k => rw [recsFieldM_sc S idx rfl]; exact foldN_fieldRecs unk rfl hap hlt hcur (wffM_sc rfl hwf).1
    | msg i =>
      obtain ⟨hrep, _, _, hv⟩ := hwf
      obtain ⟨body, hb, -⟩ := opsField_ok_one_msg rfl ho
      obtain ⟨cfs, hcv, hd⟩ := fold_msgVM S hS (S.md i) ⟨i, rfl⟩ v body hv hb
      show foldN S mdAll [.msg ..] _ = .ok (fs.set idx (.one (canonV S (S.md i) v)), unk)
      rw [hcv, foldN_cons_ok [] (applyN_one unk hap hrep hd)]
      rfl
  | many vs =>
    have hap := hap nofun
    obtain ⟨num, ty, card⟩ := fd
    cases ty with
    | sc k => rw [recsFieldM_sc S idx rfl]; exact foldN_fieldRecs unk rfl hap hlt hcur (wffM_sc rfl hwf).1
    | msg i =>
      obtain ⟨hc, _, hvs⟩ := hwf
      rcases hc with hl | ⟨hm, hset, hdist⟩
      · cases hl
        exact fold_listM S hS mdAll idx ⟨num, .msg i, .list⟩ i nofun rfl vs ops [] fs unk hlt hcur hvs ho
      · cases hm
        obtain ⟨e, kk, vty, hte, hemd⟩ := hmap rfl
        cases hte
        exact fold_mapM S hS mdAll idx _ i rfl kk vty hemd vs ops [] fs unk hlt hcur hvs hset hdist nofun ho

theorem fold_msgVM (S : Schema) (hS : SchemaOKM S) (md : MD) (hmd : ∃ i, md = S.md i) : ∀ (v : V) (body : Bytes),
    WFvM S md v → bytesMsgV S md v = .ok body →
    ∃ cfs, canonV S md v = .msg cfs [] ∧ decodeMsgN S md (recsVM S md v) = .ok (cfs, [])
  | .msg fs unk => fun body hwf hb => by
    obtain ⟨i, rfl⟩ := hmd
    obtain ⟨_, hw, _, hex⟩ := hwf
    obtain ⟨ops, ho, -⟩ := bytesMsgV_ok_msg hb
    have := fold_fieldsM S hS (S.md i) fs [] hex (hS i).2 (S.md i) fs [] [] ops rfl rfl rfl hw ho
    rw [canonFs_nil] at this
    exact ⟨canonFs S (S.md i) fs, rfl, decodeMsgN_eq_ok.mpr ⟨this, canon_complete_msg S _ fs ops (wfsM_len S _ fs hw) ho⟩⟩
  | .num _ => fun _ hwf _ => hwf.elim
  | .bs _ => fun _ hwf _ => hwf.elim

theorem fold_listM (S : Schema) (hS : SchemaOKM S) (mdAll : MD) (idx : Nat) (fd : FD) (i : Nat) (hno : ∀ g, fd.card ≠ .oneof g)
    (hlist : fd.card = .list) : ∀ (vs : List V) (ops : List EncOp) (acc : List V) (fs : List F) (unk : Bytes),
    idx < fs.length → fs.getD idx .unset = .many acc → WFvsM S (S.md i) vs → opsMsgList S (S.md i) fd.num false vs = .ok ops →
    foldN S mdAll (recsListM S idx fd i vs) (fs, unk) = .ok (fs.set idx (.many (acc ++ canonVs S (S.md i) false vs)), unk)
  | [] => fun _ acc fs unk hlt hcur _ _ => by
    show Res.ok _ = Res.ok (fs.set idx (.many (acc ++ [])), unk)
    rw [List.append_nil, set_getD_self fs idx _ hlt hcur]
  | v :: vs => fun ops acc fs unk hlt hcur hwf ho => by
    obtain ⟨body, rest, hb, hr, -⟩ := opsMsgList_ok_cons rfl ho
    obtain ⟨cfs, hcv, hd⟩ := fold_msgVM S hS (S.md i) ⟨i, rfl⟩ v body hwf.1 hb
    have ih := fold_listM S hS mdAll idx fd i hno hlist vs rest (acc ++ [V.msg cfs []]) _ unk
      (by rwa [List.length_set]) (getD_set _ hlt) hwf.2 hr
    obtain ⟨num, ty, card⟩ := fd
    cases hlist
    show foldN S mdAll (.msg .. :: _) _ = .ok (fs.set idx (.many (acc ++ canonV S (S.md i) v :: _)), unk)
    rw [foldN_cons_ok _ (applyN_list unk hcur hd), ih, List.set_set, hcv, List.append_assoc]
    rfl

/-- the entries of a map field, inserted one by one: with pairwise distinct keys every insertion adds an
    entry (none replaces an earlier one), so the map ends up holding exactly the entries written -/
theorem fold_mapM (S : Schema) (hS : SchemaOKM S) (mdAll : MD) (idx : Nat) (fd : FD) (i : Nat)
    (hm : fd.card = .map) (kk : SK) (vty : Ty) (hemd : S.md i = entryMD kk vty) :
    ∀ (vs : List V) (ops : List EncOp) (acc : List V) (fs : List F) (unk : Bytes),
    idx < fs.length → fs.getD idx .unset = .many acc → WFvsM S (S.md i) vs → (∀ e ∈ vs, EntryOK (S.md i) e) →
    KeysDistinct (S.md i) vs → (∀ x ∈ acc, ∀ e ∈ vs, keyEq (entryKey x) (canonKey (S.md i) e) = false) →
    opsMsgList S (S.md i) fd.num true vs = .ok ops →
    foldN S mdAll (recsListM S idx fd i vs) (fs, unk) = .ok (fs.set idx (.many (acc ++ canonVs S (S.md i) true vs)), unk)
  | [] => fun _ acc fs unk hlt hcur _ _ _ _ _ => by
    show Res.ok _ = Res.ok (fs.set idx (.many (acc ++ [])), unk)
    rw [List.append_nil, set_getD_self fs idx _ hlt hcur]
  | v :: vs => fun ops acc fs unk hlt hcur hwf hset hdist hfresh ho => by
    obtain ⟨hdv, hdvs⟩ := List.pairwise_cons.mp hdist
    have ih := fold_mapM S hS mdAll idx fd i hm kk vty hemd vs
    have hset' : ∀ e ∈ vs, EntryOK (S.md i) e := fun e he => hset e (List.mem_cons_of_mem _ he)
    obtain ⟨num, ty, card⟩ := fd
    cases hm
    cases hn : nilEntry (S.md i) v with
    | true =>
      -- the value is a nil pointer: no call, no record, no entry after the round trip
      rw [recsListM_skip S idx (fd := ⟨_, _, .map⟩) vs hn, canonVs_skip S (sk := true) vs hn]
      exact ih ops acc fs unk hlt hcur hwf.2 hset' hdvs (fun x hx e he => hfresh x hx e (List.mem_cons_of_mem _ he))
        ((if_pos hn).symm.trans ho)
    | false =>
      obtain ⟨body, rest, hb, hr, -⟩ := opsMsgList_ok_cons (sk := true) hn ho
      have hv1 := hwf.1
      rw [hemd] at hv1 hb
      obtain ⟨cfs, hcv, hd, hfill, hkey⟩ := fold_entryM S hS kk vty v body hv1
        ((hset v (List.mem_cons_self ..)).resolve_right (by simp [hn])) hb
      rw [← hemd] at hcv hd hfill hkey
      -- the key of `v` is new to the entries decoded so far: this insertion adds an entry
      have hfr : ∀ x ∈ acc, keyEq (entryKey x) (entryKey (V.msg cfs [])) = false := by
        intro x hx
        rw [hkey]
        exact hfresh x hx v (List.mem_cons_self ..)
      -- and the keys still to come are new to those entries with `v`'s added
      have hfresh' : ∀ x ∈ acc ++ [V.msg cfs []], ∀ e ∈ vs, keyEq (entryKey x) (canonKey (S.md i) e) = false := by
        intro x hx e he
        rcases List.mem_append.mp hx with hxa | hxe
        · exact hfresh x hxa e (List.mem_cons_of_mem _ he)
        · rw [List.mem_singleton.mp hxe, hkey]
          exact hdv e he
      rw [recsListM_live S idx (fd := ⟨_, _, .map⟩) vs hn, elemRec_of_map rfl, canonVs_live S (sk := true) vs hn,
        foldN_cons_ok _ (applyN_map unk hcur hd hfill hfr),
        ih rest (acc ++ [V.msg cfs []]) _ unk (by rwa [List.length_set]) (getD_set _ hlt) hwf.2 hset' hdvs hfresh' hr,
        List.set_set, hcv, List.append_assoc]
      rfl

theorem fold_entryM (S : Schema) (hS : SchemaOKM S) (kk : SK) (vty : Ty) : ∀ (e : V) (body : Bytes),
    WFvM S (entryMD kk vty) e → EntrySet e → bytesMsgV S (entryMD kk vty) e = .ok body →
    ∃ cfs, canonV S (entryMD kk vty) e = .msg cfs [] ∧
      foldE S (entryMD kk vty) (recsVM S (entryMD kk vty) e) (initFields (entryMD kk vty)) = .ok cfs ∧
      fillEntry S (entryMD kk vty) cfs = cfs ∧
      entryKey (V.msg cfs []) = canonKey (entryMD kk vty) e
  | .msg fs unk => fun body hwf hset hb => by
    obtain ⟨ops, ho, -⟩ := bytesMsgV_ok_msg hb
    exact ⟨_, rfl, fold_entryFsM S hS kk vty fs ops unk hwf.2.1 hset ho⟩
  | .num _ => fun _ hwf _ _ => hwf.elim
  | .bs _ => fun _ hwf _ _ => hwf.elim

theorem fold_entryFsM (S : Schema) (hS : SchemaOKM S) (kk : SK) (vty : Ty) : ∀ (fs : List F) (ops : List EncOp) (unk : Bytes),
    WFsM S (entryMD kk vty) fs → (∀ f ∈ fs, f ≠ F.unset) → opsFields S (entryMD kk vty) fs = .ok ops →
    foldE S (entryMD kk vty) (recsFieldsM S 0 (entryMD kk vty) fs) (initFields (entryMD kk vty))
        = .ok (canonFs S (entryMD kk vty) fs) ∧
      fillEntry S (entryMD kk vty) (canonFs S (entryMD kk vty) fs) = canonFs S (entryMD kk vty) fs ∧
      entryKey (V.msg (canonFs S (entryMD kk vty) fs) []) = canonKey (entryMD kk vty) (.msg fs unk)
  | [] => fun _ _ h _ _ => h.elim
  | [_] => fun _ _ h _ _ => h.2.elim
  | _ :: _ :: _ :: _ => fun _ _ h _ _ => h.2.2.elim
  | [fk, fv] => fun ops unk h hset ho => by
    obtain ⟨_, b, _, hb, -⟩ := opsFields_ok_cons ho
    obtain ⟨c, _, hc, _, -⟩ := opsFields_ok_cons hb
    obtain ⟨k, rfl⟩ := wffM_always_sc h.1 (hset fk (by simp))
    obtain ⟨cv, hcv, hfv⟩ := fold_entryValM S hS kk vty fv c (hset fv (by simp)) h.2.1 hc
      ((initFields (entryMD kk vty)).set 0 (.one (decodedV kk k)))
    have hcan : canonFs S (entryMD kk vty) [.one k, fv] = [.one (decodedV kk k), .one cv] :=
      congrArg (fun x => [F.one (decodedV kk k), x]) hcv
    rw [hcan]
    refine ⟨?_, by cases vty <;> rfl, rfl⟩
    -- the key record sets field 0, the records of the value then set field 1
    show foldE S _ (recsFieldM S 1 _ fv ++ []) ((initFields (entryMD kk vty)).set 0 (.one (decodedV kk k))) = _
    rw [List.append_nil, hfv]
    rfl

theorem fold_entryValM (S : Schema) (hS : SchemaOKM S) (kk : SK) (vty : Ty) : ∀ (f : F) (ops : List EncOp),
    f ≠ .unset → WFfM S ⟨2, vty, .always⟩ f → opsField S ⟨2, vty, .always⟩ f = .ok ops →
    ∀ (efs : List F), ∃ cv, canonF S ⟨2, vty, .always⟩ f = .one cv ∧
      foldE S (entryMD kk vty) (recsFieldM S 1 ⟨2, vty, .always⟩ f) efs = .ok (efs.set 1 (.one cv)) :=
  fun f ops hne hwf ho efs => by
  cases vty with
  | sc k =>
    obtain ⟨v, rfl⟩ := wffM_always_sc hwf hne
    exact ⟨_, rfl, rfl⟩
  | msg j =>
    cases f with
    | unset => exact absurd rfl hne
    | one v =>
      obtain ⟨body, hb, -⟩ := opsField_ok_one_msg rfl ho
      obtain ⟨cfs, hcv, hd⟩ := fold_msgVM S hS (S.md j) ⟨j, rfl⟩ v body hwf.2.2.2 hb
      refine ⟨.msg cfs [], congrArg F.one hcv, ?_⟩
      show (match (NRec.msg 1 _ j _).applyE S efs with | .ok e => foldE S _ [] e | .err => _ | .panic => _) = _
      rw [NRec.applyE_msg, hd]
      rfl
    | many vs => exact nomatch hwf.1
end

/-- the record tree of a well-formed message with maps is well formed in the sense of `unmarshal_nested`: every map
    entry is an `NRec.map` record whose payload is a sequence of entry records -/
theorem record_treeM_ok (S : Schema) (hS : SchemaOKM S) (i : Nat) (fs : List F) (hwf : WFsM S (S.md i) fs) :
    OKs S (S.md i) (recsFieldsM S 0 (S.md i) fs) :=
  recs_okM S hS (S.md i) (hS i).1 (hS i).2 (S.md i) fs [] rfl hwf

/-- Round trip of a message with map fields (scalar- or message-valued, at any depth, next to nested /
    repeated / recursive message fields, real oneofs and scalars; unknown fields at the top level; either
    decoder mode): whatever the order in which the entries of each map were written, provided the keys of
    each map are pairwise distinct, `Unmarshal(Marshal(m))` is `canonFs m` — each map field holds exactly the
    normalised entries that were written, every other field is as in `roundtrip_nested`. -/
theorem roundtrip_map (S : Schema) (hS : SchemaOKM S) (fast : Bool) (i : Nat) (fs : List F) (urs : List Rec)
    (ops : List EncOp) (hwf : WFsM S (S.md i) fs) (hex : Excl (S.md i) fs) (hok : OKFields S (S.md i) fs)
    (hu : ∀ r ∈ urs, r.OK ∧ findField (S.md i) r.tag 0 = none)
    (ho : opsFields S (S.md i) fs = .ok ops) :
    unmarshal S fast (S.md i) (wiresOf ops ++ Csproto.wiresOf urs)
      = .ok (canonFs S (S.md i) fs, Csproto.wiresOf urs) := by
  have hfold := fold_fieldsM S hS (S.md i) fs [] hex (hS i).2 (S.md i) fs [] [] ops rfl rfl rfl hwf ho
  rw [canonFs_nil] at hfold
  exact roundtrip_of_tree S fast _ urs hu (ops_recsFieldsM S _ fs ops hok (wfsM_clean S _ fs hwf) ho)
    (record_treeM_ok S hS i fs hwf) hfold (canon_complete_msg S _ fs ops (wfsM_len S _ fs hwf) ho)

theorem roundtrip_map_known (S : Schema) (hS : SchemaOKM S) (fast : Bool) (i : Nat) (fs : List F)
    (ops : List EncOp) (hwf : WFsM S (S.md i) fs) (hex : Excl (S.md i) fs) (hok : OKFields S (S.md i) fs)
    (ho : opsFields S (S.md i) fs = .ok ops) :
    unmarshal S fast (S.md i) (wiresOf ops) = .ok (canonFs S (S.md i) fs, []) := by
  have := roundtrip_map S hS fast i fs [] ops hwf hex hok nofun ho
  rwa [show Csproto.wiresOf [] = [] from rfl, List.append_nil] at this

/-- the length bound in `WFvM` can be checked on the computed size -/
theorem recsM_len_eq_size (S : Schema) (md : MD) (fs : List F) (ops : List EncOp) (hok : OKFields S md fs)
    (hcl : CleanFs fs) (ho : opsFields S md fs = .ok ops) :
    (wiresN (recsFieldsM S 0 md fs)).length = sizeFields S md fs := by
  rw [← ops_recsFieldsM S md fs ops hok hcl ho, (fields_exact S md fs ops hok ho).1]

/-- the entries the generated code writes: all of a repeated field (`sk = false`), the non-nil-valued ones of a
    map field (`sk = true`) -/
def liveVs (md : MD) (sk : Bool) (vs : List V) : List V := vs.filter fun v => !(sk && nilEntry md v)

theorem liveVs_false (md : MD) (vs : List V) : liveVs md false vs = vs := List.filter_eq_self.mpr fun _ _ => rfl
theorem liveVs_skip {md : MD} {sk : Bool} {v : V} (vs : List V) (h : (sk && nilEntry md v) = true) :
    liveVs md sk (v :: vs) = liveVs md sk vs := List.filter_cons_of_neg (by simp [h])
theorem liveVs_live {md : MD} {sk : Bool} {v : V} (vs : List V) (h : (sk && nilEntry md v) = false) :
    liveVs md sk (v :: vs) = v :: liveVs md sk vs := List.filter_cons_of_pos (by simp [h])

theorem EntrySet.valUnset {e : V} (h : EntrySet e) : valUnset e = false :=
  match e, h with
  | .msg (_ :: .unset :: _) _, h => absurd rfl (h .unset (by simp))
  | .msg [] _, _ | .msg [_] _, _ | .msg (_ :: .one _ :: _) _, _ | .msg (_ :: .many _ :: _) _, _ => rfl

theorem liveVs_of_set (md : MD) (sk : Bool) (vs : List V) (h : ∀ e ∈ vs, EntrySet e) : liveVs md sk vs = vs :=
  List.filter_eq_self.mpr fun e he => by simp [nilEntry, (h e he).valUnset]

/-- `Size()` and the encoder calls of a map field are those of the map without its nil-valued entries, wherever
    they sit in the iteration order -/
theorem sizeMsgList_live (S : Schema) (md : MD) (tag : Nat) (sk : Bool) : ∀ (vs : List V),
    sizeMsgList S md tag sk vs = sizeMsgList S md tag false (liveVs md sk vs)
  | [] => rfl
  | v :: vs => by
    cases hn : (sk && nilEntry md v)
    · rw [liveVs_live vs hn]
      show (if sk && nilEntry md v then _ else _) + _ = _ + sizeMsgList S md tag false (liveVs md sk vs)
      rw [hn, sizeMsgList_live S md tag sk vs]; rfl
    · rw [liveVs_skip vs hn]
      show (if sk && nilEntry md v then _ else _) + _ = _
      rw [hn, sizeMsgList_live S md tag sk vs]; exact Nat.zero_add _

theorem opsMsgList_live (S : Schema) (md : MD) (tag : Nat) (sk : Bool) : ∀ (vs : List V),
    opsMsgList S md tag sk vs = opsMsgList S md tag false (liveVs md sk vs)
  | [] => rfl
  | v :: vs => by
    cases hn : (sk && nilEntry md v)
    · rw [liveVs_live vs hn]
      show (if sk && nilEntry md v then _ else _) = (match bytesMsgV S md v with | .ok _ => _ | .err => _ | .panic => _)
      rw [hn, opsMsgList_live S md tag sk vs]; rfl
    · rw [liveVs_skip vs hn, show opsMsgList S md tag sk (v :: vs) = _ from if_pos hn, opsMsgList_live S md tag sk vs]

/-- the entries after the round trip: the (normalised) entries that were written, in the order written -/
theorem canonVs_eq_map (S : Schema) (md : MD) (sk : Bool) : ∀ (vs : List V),
    canonVs S md sk vs = (liveVs md sk vs).map (canonV S md)
  | [] => rfl
  | v :: vs => by
    cases hn : (sk && nilEntry md v)
    · rw [canonVs_live S vs hn, liveVs_live vs hn, canonVs_eq_map S md sk vs]; rfl
    · rw [canonVs_skip S vs hn, liveVs_skip vs hn, canonVs_eq_map S md sk vs]

/-- two Go values of one message type that differ at most in the order in which the entries of their map
    fields are listed (two iteration orders of the same maps) -/
def MapsPermuted (md : MD) (fs gs : List F) : Prop :=
  fs.length = gs.length ∧ ∀ (j : Nat) (fd : FD), md[j]? = some fd → fs[j]? = gs[j]? ∨
    (fd.card = Card.map ∧ ∃ es1 es2 : List V, fs[j]? = some (F.many es1) ∧ gs[j]? = some (F.many es2) ∧ es1.Perm es2)

/-- normalisation commutes with reordering the entries of maps -/
theorem canonFs_mapsPermuted (S : Schema) (md : MD) (fs gs : List F) (h : MapsPermuted md fs gs) :
    MapsPermuted md (canonFs S md fs) (canonFs S md gs) := by
  refine ⟨by rw [length_canonFs, length_canonFs], fun j fd hj => ?_⟩
  rw [canonFs_getElem?, canonFs_getElem?, hj]
  rcases h.2 j fd hj with he | ⟨hm, es1, es2, h1, h2, hp⟩
  · rw [he]; exact .inl rfl
  · rw [h1, h2]
    refine .inr ⟨hm, ?_⟩
    obtain ⟨num, ty, card⟩ := fd
    cases ty with
    | sc k => exact ⟨_, _, rfl, rfl, hp.map _⟩
    | msg i => exact ⟨_, _, rfl, rfl, by rw [canonVs_eq_map, canonVs_eq_map]; exact (hp.filter _).map _⟩

/-- `m[k]` on a map value held as an association list -/
def mapGet (es : List V) (k : V) : Option V := (es.find? fun e => keyEq (entryKey e) k).map entryVal

theorem keyEq_symm (a b : V) : keyEq a b = keyEq b a := by
  cases a <;> cases b <;> first | rfl | exact BEq.comm

theorem eq_of_keyEq {a b : V} (h : keyEq a b = true) : a = b := by
  cases a <;> cases b <;> first | cases h | exact congrArg _ (eq_of_beq h)

theorem keyEq_of_common_right {a b k : V} (h1 : keyEq a k = true) (h2 : keyEq b k = true) : keyEq a b = true := by
  cases eq_of_keyEq h1; cases eq_of_keyEq h2; exact h1

/-- the keys (as stored) are pairwise different -/
def StoredKeysDistinct (es : List V) : Prop := es.Pairwise fun a b => keyEq (entryKey a) (entryKey b) = false

/-- a map value is determined by its entries, not by their order: two association lists with pairwise
    distinct keys that are permutations of each other have the same lookup function -/
theorem mapGet_perm {es1 es2 : List V} (hp : es1.Perm es2) (hd : StoredKeysDistinct es1) (k : V) :
    mapGet es1 k = mapGet es2 k := by
  unfold mapGet
  congr 1
  induction hp with
  | nil => rfl
  | cons x _ ih =>
    simp only [List.find?_cons]
    rw [ih (List.pairwise_cons.mp hd).2]
  | swap x y l =>
    have hxy : keyEq (entryKey y) (entryKey x) = false := (List.pairwise_cons.mp hd).1 x (by simp)
    simp only [List.find?_cons]
    cases h1 : keyEq (entryKey x) k with
    | false => rfl
    | true =>
      cases h2 : keyEq (entryKey y) k with
      | false => rfl
      | true => rw [keyEq_of_common_right h2 h1] at hxy; cases hxy
  | trans h1 _ ih1 ih2 =>
    rw [ih1 hd]
    exact ih2 ((h1.pairwise_iff (fun {a b} hab => by rw [keyEq_symm]; exact hab)).mp hd)

/-- the key a decoded entry is stored under is the normalised key of the entry written -/
theorem entryKey_canonV (S : Schema) (kk : SK) (vty : Ty) (e : V) (hwf : WFvM S (entryMD kk vty) e) (hset : EntrySet e) :
    entryKey (canonV S (entryMD kk vty) e) = canonKey (entryMD kk vty) e := by
  match e, hwf, hset with
  | .msg (fk :: _ :: _) _, hwf, hset =>
    obtain ⟨k, rfl⟩ := wffM_always_sc hwf.2.1.1 (hset fk (by simp))
    rfl
  | .msg [] _, hwf, _ => exact hwf.2.1.elim
  | .msg [_] _, hwf, _ => exact hwf.2.1.2.elim

theorem mem_liveVs {S : Schema} {emd : MD} {es : List V} (hwf : WFvsM S emd es) (hset : ∀ e ∈ es, EntryOK emd e)
    {x : V} (hx : x ∈ liveVs emd true es) : x ∈ es ∧ WFvM S emd x ∧ EntrySet x := by
  obtain ⟨hm, hn⟩ := List.mem_filter.mp hx
  exact ⟨hm, wfvsM_mem S emd es hwf x hm, (hset x hm).resolve_right (by simpa using hn)⟩

/-- the decoded entries of a well-formed map field have pairwise distinct stored keys -/
theorem storedKeys_live (S : Schema) {emd : MD} {kk : SK} {vty : Ty} (hemd : emd = entryMD kk vty) {es : List V}
    (hwf : WFvsM S emd es) (hset : ∀ e ∈ es, EntryOK emd e) (hd : KeysDistinct emd es) :
    StoredKeysDistinct ((liveVs emd true es).map (canonV S emd)) := by
  subst hemd
  refine List.pairwise_map.mpr ((hd.sublist List.filter_sublist).imp_of_mem fun {a b} ha hb hab => ?_)
  obtain ⟨_, hwa, hsa⟩ := mem_liveVs hwf hset ha
  obtain ⟨_, hwb, hsb⟩ := mem_liveVs hwf hset hb
  rw [entryKey_canonV S kk vty a hwa hsa, entryKey_canonV S kk vty b hwb hsb]
  exact hab

/-- in a Go map a key occurs once: an entry's key differs from the key of every other entry -/
theorem keys_differ {emd : MD} {es : List V} (hd : KeysDistinct emd es) :
    ∀ x ∈ es, ∀ y ∈ es, x ≠ y → keyEq (canonKey emd x) (canonKey emd y) = false := by
  refine List.Pairwise.forall_of_forall_of_flip (fun _ _ h => absurd rfl h) ?_ ?_
  · exact hd.imp fun {a b} h (_ : a ≠ b) => h
  · exact hd.imp fun {a b} h (_ : b ≠ a) => keyEq_symm .. ▸ h

/-- what a map field holds after the round trip: the normalised entries that were written, in the order written -/
theorem canonFs_map_field (S : Schema) {md : MD} {fs : List F} {j e : Nat} {fd : FD} {es : List V}
    (hj : md[j]? = some fd) (hm : fd.card = .map) (hty : fd.ty = .msg e) (hf : fs[j]? = some (.many es)) :
    (canonFs S md fs)[j]? = some (.many ((liveVs (S.md e) true es).map (canonV S (S.md e)))) := by
  rw [canonFs_getElem?, hj, hf, ← canonVs_eq_map]
  obtain ⟨num, ty, card⟩ := fd
  cases hty; cases hm
  rfl

/-- what the schema and `WFsM` say about a map field -/
theorem wfsM_map_field (S : Schema) (hS : SchemaOKM S) {i : Nat} {fs : List F} (hwf : WFsM S (S.md i) fs) {j e : Nat} {fd : FD}
    {es : List V} (hj : (S.md i)[j]? = some fd) (hm : fd.card = .map) (hty : fd.ty = .msg e) (hf : fs[j]? = some (.many es)) :
    ∃ kk vty, S.md e = entryMD kk vty ∧ WFvsM S (S.md e) es ∧ (∀ x ∈ es, EntryOK (S.md e) x) ∧ KeysDistinct (S.md e) es := by
  obtain ⟨e', kk, vty, hte, hemd⟩ := (hS i).2 fd (List.mem_of_getElem? hj) hm
  have hw := wfsM_get S _ fs j fd hwf hj
  rw [hf] at hw
  obtain ⟨num, ty, card⟩ := fd
  cases hty; cases hm; cases hte
  obtain ⟨hc, _, hvs⟩ := hw
  exact ⟨kk, vty, hemd, hvs, (hc.resolve_left nofun).2⟩

end Csproto.Gen
