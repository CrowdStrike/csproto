import Csproto.Proofs.GenDec
import Csproto.Proofs.Gen
import Csproto.Proofs.Records
/-
  One iteration of the generated `Unmarshal` loop on one well-formed record.

  A record of a scalar field is the wire image of a `C01.FieldVal` (`dfv`, `dpfv`), so the C01 round trip
  says what `DecodeTag` and the field's arm return on it; an unknown field is skipped as its raw bytes.
  The loops themselves are used only through their step equations.
-/
namespace Csproto.Gen
open Csproto Csproto.C01

/-- the `C01.FieldVal` whose *reader* is the one the generated code calls for kind `k` -/
def dfv (k : SK) (v : V) : FieldVal :=
  match k with
  | .bool => .bool (v.n != 0)
  | .int32 | .enum => .int32 (toI32 v.n)
  | .int64 => .int64 (toI64 v.n)
  | .uint32 => .uint32 v.n
  | .uint64 => .uint64 v.n
  | .sint32 => .sint32 (toI32 v.n)
  | .sint64 => .sint64 (toI64 v.n)
  | .fixed32 | .sfixed32 => .fixed32 v.n
  | .fixed64 | .sfixed64 => .fixed64 v.n
  | .float => .float32 v.n
  | .double => .float64 v.n
  | .string => .str v.b
  | .bytes => .bytes v.b

def dpfv (k : SK) (vs : List V) : FieldVal :=
  match k with
  | .bool => .pBool (vs.map fun v => v.n != 0)
  | .int32 | .enum => .pInt32 (vs.map fun v => toI32 v.n)
  | .int64 => .pInt64 (vs.map fun v => toI64 v.n)
  | .uint32 => .pUint32 (vs.map V.n)
  | .uint64 => .pUint64 (vs.map V.n)
  | .sint32 => .pSint32 (vs.map fun v => toI32 v.n)
  | .sint64 => .pSint64 (vs.map fun v => toI64 v.n)
  | .fixed32 | .sfixed32 => .pFixed32 (vs.map V.n)
  | .fixed64 | .sfixed64 => .pFixed64 (vs.map V.n)
  | .float => .pFloat32 (vs.map V.n)
  | .double => .pFloat64 (vs.map V.n)
  | .string | .bytes => .pBool [true]

/-- ranges a conforming writer respects (the Go field type's width) -/
def DecValid (k : SK) (v : V) : Prop :=
  match k with
  | .uint32 | .fixed32 | .sfixed32 | .float => v.n < two32
  | .int64 | .uint64 | .sint64 | .fixed64 | .sfixed64 | .double => v.n < two64
  | .string | .bytes => v.b.length ≤ maxFieldLen
  | _ => True

theorem toU64_toI64 {n : Nat} (h : n < two64) : toU64 (toI64 n) = n := by
  have hn := Int.emod_eq_of_lt (Int.natCast_nonneg n) (Int.ofNat_lt.mpr h)
  unfold toU64 toI64
  rw [Nat.mod_eq_of_lt h]
  split
  · rw [hn]; rfl
  · rw [Int.sub_emod_right, hn]; rfl

theorem dfv_valid (k : SK) (v : V) (h : DecValid k v) : (dfv k v).Valid := by
  cases k
  case int32 | enum | sint32 => exact toI32_in _
  case int64 | sint64 => exact toI64_in _
  case bool => trivial
  all_goals exact h

/-- `dfv` is written by the writer the generated code calls (an `int64` is passed as its `uint64` image) and read by
    the reader it calls, on the kind's wire type -/
theorem dfv_ops (k : SK) (tag : Nat) (v : V) (h : DecValid k v) :
    (dfv k v).encOp tag = scalarOp k tag v ∧ (dfv k v).decOp = decOpOf k ∧ (dfv k v).wt = wtOf k := by
  cases k
  case int64 => exact ⟨congrArg (EncOp.varint tag) (toU64_toI64 h), rfl, rfl⟩
  all_goals exact ⟨rfl, rfl, rfl⟩

/-- what the field holds after the element was decoded -/
def decodedV (k : SK) (v : V) : V := itemToV k (dfv k v).item
def decodedVs (k : SK) (vs : List V) : List V := itemToVs k (dpfv k vs).item

theorem map_toU64_toI64 (vs : List V) (hv : ∀ v ∈ vs, v.n < two64) :
    (vs.map fun v => toI64 v.n).map toU64 = vs.map V.n := by
  rw [List.map_map]
  apply List.map_congr_left
  intro v hvm
  exact toU64_toI64 (hv v hvm)

theorem dpfv_valid (k : SK) (vs : List V) (hne : vs ≠ []) (hv : ∀ v ∈ vs, DecValid k v)
    (hl : vs.length ≤ maxFieldLen) : (dpfv k vs).Valid := by
  cases k
  case string | bytes => exact ⟨nofun, by decide⟩
  case bool => exact ⟨(map_packed_ok hne hl _ (fun _ => True) fun _ _ => trivial).1, by rw [List.length_map]; exact hl⟩
  case int32 | enum | sint32 => exact map_packed_ok hne hl _ _ fun v _ => toI32_in v.n
  case int64 | sint64 => exact map_packed_ok hne hl _ _ fun v _ => toI64_in v.n
  all_goals exact map_packed_ok hne hl _ _ hv

/-- for a packable kind, `dpfv` is written by the packed writer the generated code calls and read by its packed
    reader, on wire type 2, which is not the kind's own -/
theorem dpfv_ops (k : SK) (tag : Nat) (vs : List V) (hv : ∀ v ∈ vs, DecValid k v) (hk : k ≠ .string ∧ k ≠ .bytes) :
    (dpfv k vs).encOp tag = packedOp k tag vs ∧ some (dpfv k vs).decOp = packedDecOpOf k ∧
      (dpfv k vs).wt = wtLen ∧ wtLen ≠ wtOf k := by
  cases k
  case string => exact absurd rfl hk.1
  case bytes => exact absurd rfl hk.2
  case int64 => exact ⟨congrArg (EncOp.packedVarint tag) (map_toU64_toI64 vs hv), rfl, rfl, by decide⟩
  case int32 | enum => exact ⟨congrArg (EncOp.packedVarint tag) (List.map_map ..), rfl, rfl, by decide⟩
  all_goals exact ⟨rfl, rfl, rfl, by decide⟩

/-- `C01.roundtrip` with the cursor after the field given as a position -/
theorem fv_at (fv : FieldVal) (tag : Nat) (ht : ValidTag tag) (hv : fv.Valid) {d : Dec} {pre post : Bytes}
    (h : d.At pre ((fv.encOp tag).wire ++ post)) :
    ∃ d1 d2 a, d.step .tag = (d1, .ok (.tag tag fv.wt), 0) ∧ d1.step fv.decOp = (d2, .ok fv.item, a) ∧
      d2.At (pre ++ (fv.encOp tag).wire) post ∧ d2.fast = d.fast := by
  obtain ⟨d1, d2, a, h1, h2, hoff, hp, hf⟩ := roundtrip fv tag ht hv d pre post h
  exact ⟨d1, d2, a, h1, h2, ⟨by rw [hp, h.p, List.append_assoc], by rw [hoff, List.length_append]⟩, hf⟩

/-- `Skip` right after `DecodeTag` on a field the caller does not know: the field's raw bytes -/
theorem skipRec_at {r : Rec} (hr : r.OK) {d : Dec} {pre post : Bytes} (h : d.At pre (r.wire ++ post)) :
    ∃ d1 d2, d.step .tag = (d1, .ok (.tag r.tag r.wt), 0) ∧ d1.step (.skip r.tag r.wt) = (d2, .ok (.bytes r.wire), 0) ∧
      d2.At (pre ++ r.wire) post ∧ d2.fast = d.fast := by
  obtain ⟨h1, hAt⟩ := Rec.tag_at hr h
  refine ⟨_, _, h1, Rec.skip_at hr h, ?_, rfl⟩
  have := hAt.advance
  rwa [List.append_assoc] at this

/-- `DecodeTag`, then `DecodeBytes`, on a length-delimited field -/
theorem lenRec_at {num : Nat} {body : Bytes} (ht : ValidTag num) (hl : body.length ≤ maxFieldLen) {d : Dec}
    {pre post : Bytes} (h : d.At pre (encTag num wtLen ++ encVarint body.length ++ body ++ post)) :
    ∃ d1 d2, d.step .tag = (d1, .ok (.tag num wtLen), 0) ∧ d1.bytesOp = (d2, .ok (.bytes body)) ∧
      d2.At (pre ++ (encTag num wtLen ++ encVarint body.length ++ body)) post ∧ d2.fast = d.fast := by
  rw [List.append_assoc, List.append_assoc, ← List.append_assoc (encVarint _)] at h
  have h1 := h.afterTag
  refine ⟨_, _, Dec.tag_at h ht.1 ht.2 (by decide), Dec.bytes_at h1 hl, ?_, rfl⟩
  rw [List.append_assoc (encTag _ _), ← List.append_assoc pre]
  exact h1.advance

theorem tag_more {d d1 : Dec} {it : Item} {a : Nat} (h : d.step .tag = (d1, .ok it, a)) : d.off < d.len := by
  apply Nat.lt_of_not_le
  intro hn
  simp [Dec.step, hn] at h

theorem at_start (p : Bytes) (fast : Bool) : ({ p := p, off := 0, fast := fast } : Dec).At [] p := ⟨rfl, rfl⟩

/-- the `case <number>:` arm of a declared field -/
theorem unmarshalLoop_field (S : Schema) {fast : Bool} (fuel : Nat) {md : MD} {d d1 : Dec} (fs : List F) (unk : Bytes)
    {num wt a idx : Nat} {fd : FD} (ht : d.step .tag = (d1, .ok (.tag num wt), a))
    (hf : findField md num 0 = some (idx, fd)) :
    unmarshalLoop S fast (fuel + 1) md d fs unk =
      match fieldStep S fast fuel fd wt d1 (fs.getD idx .unset) with
      | .ok (d2, f) => unmarshalLoop S fast fuel md d2 (assign md fs idx fd f) unk
      | .err => .err
      | .panic => .panic := by
  rw [unmarshalLoop]
  simp only [tag_more ht, not_true_eq_false, if_false, ht, hf]
  rfl

/-- the `default:` arm -/
theorem unmarshalLoop_skip (S : Schema) {fast : Bool} (fuel : Nat) {md : MD} {d d1 d2 : Dec} (fs : List F) (unk : Bytes)
    {num wt a1 a2 : Nat} {raw : Bytes} (ht : d.step .tag = (d1, .ok (.tag num wt), a1))
    (hf : findField md num 0 = none) (hs : d1.step (.skip num wt) = (d2, .ok (.bytes raw), a2)) :
    unmarshalLoop S fast (fuel + 1) md d fs unk = unmarshalLoop S fast fuel md d2 fs (unk ++ raw) := by
  rw [unmarshalLoop]
  simp only [tag_more ht, not_true_eq_false, if_false, ht, hf, hs]

theorem unmarshalLoop_end (S : Schema) (fast : Bool) (fuel : Nat) (md : MD) {d : Dec} {pre : Bytes} (fs : List F)
    (unk : Bytes) (h : d.At pre []) : unmarshalLoop S fast (fuel + 1) md d fs unk = .ok (fs, unk) := by
  rw [unmarshalLoop, if_pos h.eof]

theorem entryLoop_field (S : Schema) {fast : Bool} (fuel : Nat) {emd : MD} {d d1 : Dec} (efs : List F)
    {num wt a idx : Nat} {fd : FD} (ht : d.step .tag = (d1, .ok (.tag num wt), a))
    (hf : findField emd num 0 = some (idx, fd)) :
    entryLoop S fast (fuel + 1) emd d efs =
      match fieldStep S fast fuel fd wt d1 (efs.getD idx .unset) with
      | .ok (d2, f) => entryLoop S fast fuel emd d2 (efs.set idx f)
      | .err => .err
      | .panic => .panic := by
  rw [entryLoop]
  simp only [tag_more ht, not_true_eq_false, if_false, ht, hf]
  rfl

theorem entryLoop_skip (S : Schema) {fast : Bool} (fuel : Nat) {emd : MD} {d d1 d2 : Dec} (efs : List F)
    {num wt a1 a2 : Nat} {it : Item} (ht : d.step .tag = (d1, .ok (.tag num wt), a1))
    (hf : findField emd num 0 = none) (hs : d1.step (.skip num wt) = (d2, .ok it, a2)) :
    entryLoop S fast (fuel + 1) emd d efs = entryLoop S fast fuel emd d2 efs := by
  rw [entryLoop]
  simp only [tag_more ht, not_true_eq_false, if_false, ht, hf, hs]

theorem entryLoop_end (S : Schema) (fast : Bool) (fuel : Nat) (emd : MD) {d : Dec} {pre : Bytes} (efs : List F)
    (h : d.At pre []) : entryLoop S fast (fuel + 1) emd d efs = .ok efs := by
  rw [entryLoop, if_pos h.eof]

def isRep (c : Card) : Bool :=
  match c with
  | .list | .packed => true
  | _ => false

/-- the arm of a scalar field: the repeated snippets append, the singular ones store -/
theorem fieldStep_scalar (S : Schema) (fast : Bool) (fuel : Nat) (fd : FD) (k : SK) (wt : Nat) (d : Dec) (cur : F)
    (hty : fd.ty = .sc k) :
    fieldStep S fast (fuel + 1) fd wt d cur =
      if isRep fd.card then (readRepeated k d wt).map fun (x : Dec × List V) => (x.1, appendTo cur x.2)
      else (readScalar k d wt).map fun (x : Dec × V) => (x.1, F.one x.2) := by
  simp only [fieldStep, hty]
  cases fd.card <;> rfl

theorem readRepeated_one {k : SK} {d d' : Dec} {v : V} (h : readScalar k d (wtOf k) = .ok (d', v)) :
    readRepeated k d (wtOf k) = .ok (d', [v]) := by
  unfold readRepeated
  cases packedDecOpOf k <;> simp [h, Res.map]

/-- **the arm of a scalar field reads what the writer of its kind wrote**: the key, then the value as the struct
    stores it -/
theorem scalarRec_at (S : Schema) (fast : Bool) (fuel : Nat) {fd : FD} {k : SK} {v : V} (hty : fd.ty = .sc k)
    (ht : ValidTag fd.num) (hv : DecValid k v) (cur : F) {d : Dec} {pre post : Bytes}
    (h : d.At pre ((scalarOp k fd.num v).wire ++ post)) :
    ∃ d1 d2, d.step .tag = (d1, .ok (.tag fd.num (wtOf k)), 0) ∧
      fieldStep S fast (fuel + 1) fd (wtOf k) d1 cur =
        .ok (d2, if isRep fd.card then appendTo cur [decodedV k v] else .one (decodedV k v)) ∧
      d2.At (pre ++ (scalarOp k fd.num v).wire) post ∧ d2.fast = d.fast := by
  obtain ⟨henc, hdec, hwt⟩ := dfv_ops k fd.num v hv
  rw [← henc] at h ⊢
  obtain ⟨d1, d2, a, h1, h2, hAt, hf⟩ := fv_at (dfv k v) fd.num ht (dfv_valid k v hv) h
  rw [hwt] at h1
  rw [hdec] at h2
  have hr : readScalar k d1 (wtOf k) = .ok (d2, decodedV k v) := by simp [readScalar, h2, decodedV]
  refine ⟨d1, d2, h1, ?_, hAt, hf⟩
  rw [fieldStep_scalar S fast fuel fd k _ d1 cur hty]
  by_cases hrep : isRep fd.card = true
  · rw [if_pos hrep, if_pos hrep, readRepeated_one hr]; rfl
  · rw [if_neg hrep, if_neg hrep, hr]; rfl

/-- the arm of a repeated scalar field reads a packed run with the packed reader of the kind -/
theorem packedRec_at (S : Schema) (fast : Bool) (fuel : Nat) {fd : FD} {k : SK} {vs : List V} (hty : fd.ty = .sc k)
    (ht : ValidTag fd.num) (hrep : isRep fd.card = true) (hne : vs ≠ []) (hv : ∀ v ∈ vs, DecValid k v)
    (hl : vs.length ≤ maxFieldLen) (hk : k ≠ .string ∧ k ≠ .bytes) (cur : F) {d : Dec} {pre post : Bytes}
    (h : d.At pre ((packedOp k fd.num vs).wire ++ post)) :
    ∃ d1 d2, d.step .tag = (d1, .ok (.tag fd.num wtLen), 0) ∧
      fieldStep S fast (fuel + 1) fd wtLen d1 cur = .ok (d2, appendTo cur (decodedVs k vs)) ∧
      d2.At (pre ++ (packedOp k fd.num vs).wire) post ∧ d2.fast = d.fast := by
  obtain ⟨henc, hdec, hwt, hne2⟩ := dpfv_ops k fd.num vs hv hk
  rw [← henc] at h ⊢
  obtain ⟨d1, d2, a, h1, h2, hAt, hf⟩ := fv_at (dpfv k vs) fd.num ht (dpfv_valid k vs hne hv hl) h
  rw [hwt] at h1
  refine ⟨d1, d2, h1, ?_, hAt, hf⟩
  rw [fieldStep_scalar S fast fuel fd k _ d1 cur hty, if_pos hrep]
  unfold readRepeated
  rw [← hdec]
  simp [hne2, h2, decodedVs, Res.map]

/-- one record, as a conforming writer emits it -/
inductive WRec where
  | scalar (idx : Nat) (fd : FD) (k : SK) (v : V)         -- one element of a scalar field
  | packed (idx : Nat) (fd : FD) (k : SK) (vs : List V)   -- a packed run of a repeated scalar field
  | unknown (r : Rec)                                     -- a field the message type does not define

def WRec.wire : WRec → Bytes
  | .scalar _ fd k v => (scalarOp k fd.num v).wire
  | .packed _ fd k vs => (packedOp k fd.num vs).wire
  | .unknown r => r.wire

def WRec.OK (md : MD) : WRec → Prop
  | .scalar idx fd k v => findField md fd.num 0 = some (idx, fd) ∧ fd.ty = .sc k ∧ ValidTag fd.num ∧ DecValid k v
  | .packed idx fd k vs => findField md fd.num 0 = some (idx, fd) ∧ fd.ty = .sc k ∧ ValidTag fd.num ∧
      isRep fd.card = true ∧ vs ≠ [] ∧ (∀ v ∈ vs, DecValid k v) ∧ vs.length ≤ maxFieldLen ∧ (k ≠ .string ∧ k ≠ .bytes)
  | .unknown r => r.OK ∧ findField md r.tag 0 = none

/-- the reference rule for one record: last one wins / append / retain -/
def WRec.apply (md : MD) (st : List F × Bytes) : WRec → List F × Bytes
  | .scalar idx fd k v =>
    (assign md st.1 idx fd (if isRep fd.card then appendTo (st.1.getD idx .unset) [decodedV k v] else .one (decodedV k v)), st.2)
  | .packed idx fd k vs => (assign md st.1 idx fd (appendTo (st.1.getD idx .unset) (decodedVs k vs)), st.2)
  | .unknown r => (st.1, st.2 ++ r.wire)

def wiresW (rs : List WRec) : Bytes := (rs.map WRec.wire).flatten

theorem wiresW_cons (r : WRec) (rs : List WRec) : wiresW (r :: rs) = r.wire ++ wiresW rs := by simp [wiresW]

theorem wiresW_append (a b : List WRec) : wiresW (a ++ b) = wiresW a ++ wiresW b := by simp [wiresW]

theorem loop_step (S : Schema) (fast : Bool) (md : MD) (r : WRec) (hok : r.OK md) (fuel : Nat) (d : Dec)
    (pre post : Bytes) (fs : List F) (unk : Bytes) (hAt : d.At pre (r.wire ++ post)) (hf : d.fast = fast) :
    ∃ d', d'.At (pre ++ r.wire) post ∧ d'.fast = fast ∧
      unmarshalLoop S fast (fuel + 2) md d fs unk =
        unmarshalLoop S fast (fuel + 1) md d' (r.apply md (fs, unk)).1 (r.apply md (fs, unk)).2 := by
  cases r with
  | scalar idx fd k v =>
    obtain ⟨hfind, hty, htag, hval⟩ := hok
    obtain ⟨d1, d2, h1, h2, hAt2, hf2⟩ := scalarRec_at S fast fuel hty htag hval (fs.getD idx .unset) hAt
    exact ⟨d2, hAt2, hf2.trans hf, by rw [unmarshalLoop_field S _ fs unk h1 hfind, h2]; rfl⟩
  | packed idx fd k vs =>
    obtain ⟨hfind, hty, htag, hrep, hne, hval, hlen, hk⟩ := hok
    obtain ⟨d1, d2, h1, h2, hAt2, hf2⟩ := packedRec_at S fast fuel hty htag hrep hne hval hlen hk (fs.getD idx .unset) hAt
    exact ⟨d2, hAt2, hf2.trans hf, by rw [unmarshalLoop_field S _ fs unk h1 hfind, h2]; rfl⟩
  | unknown r =>
    obtain ⟨d1, d2, h1, h2, hAt2, hf2⟩ := skipRec_at hok.1 hAt
    exact ⟨d2, hAt2, hf2.trans hf, unmarshalLoop_skip S _ fs unk h1 hok.2 h2⟩

/-- every scalar call writes the key of the field's own number with the wire type of the kind, then a payload -/
theorem scalarOp_wire_key (k : SK) (num : Nat) (v : V) :
    ∃ payload, (scalarOp k num v).wire = encTag num (wtOf k) ++ payload := by
  cases k
  case string | bytes => exact ⟨_, List.append_assoc ..⟩
  all_goals exact ⟨_, rfl⟩

theorem scalarOp_wire_ne_nil (k : SK) (tag : Nat) (v : V) : (scalarOp k tag v).wire ≠ [] := by
  obtain ⟨p, h⟩ := scalarOp_wire_key k tag v
  simp [h, encTag, encVarint_ne_nil]

theorem WRec.wire_ne_nil (md : MD) (r : WRec) (h : r.OK md) : r.wire ≠ [] := by
  cases r with
  | scalar idx fd k v => exact scalarOp_wire_ne_nil k fd.num v
  | packed idx fd k vs =>
    obtain ⟨_, _, _, _, hne, hval, hlen, hk⟩ := h
    simp only [WRec.wire]
    rw [← (dpfv_ops k fd.num vs hval hk).1, wire_split (dpfv k vs) fd.num (dpfv_valid k vs hne hval hlen)]
    simp [encTag, encVarint_ne_nil]
  | unknown r => exact Rec.wire_ne_nil r

/-- what is retained: the unknown records' raw bytes, in wire order, after what was there before -/
def unknownBytes : List WRec → Bytes
  | [] => []
  | .unknown r :: rs => r.wire ++ unknownBytes rs
  | _ :: rs => unknownBytes rs

theorem fold_unknown (md : MD) (rs : List WRec) : ∀ (fs : List F) (unk : Bytes),
    (rs.foldl (WRec.apply md) (fs, unk)).2 = unk ++ unknownBytes rs := by
  induction rs with
  | nil => intro fs unk; simp [unknownBytes]
  | cons r rs ih =>
    intro fs unk
    cases r with
    | scalar idx fd k v => exact ih _ _
    | packed idx fd k vs => exact ih _ _
    | unknown r => simp only [List.foldl_cons, WRec.apply, unknownBytes]; rw [ih]; simp

theorem fold_map_unknown (md : MD) (urs : List Rec) : ∀ (fs : List F) (unk : Bytes),
    ((urs.map WRec.unknown).foldl (WRec.apply md) (fs, unk)) = (fs, unk ++ Csproto.wiresOf urs) := by
  induction urs with
  | nil => intro fs unk; simp [Csproto.wiresOf]
  | cons r urs ih => intro fs unk; simp only [List.map_cons, List.foldl_cons, WRec.apply]; rw [ih]; simp [Csproto.wiresOf_cons]

theorem wiresW_unknown (urs : List Rec) : wiresW (urs.map WRec.unknown) = Csproto.wiresOf urs := by
  induction urs with
  | nil => rfl
  | cons r urs ih => simp [wiresW_cons, Csproto.wiresOf_cons, WRec.wire, ih]

end Csproto.Gen
