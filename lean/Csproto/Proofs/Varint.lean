import Csproto.Model.Wire
/-
  Varints: `SizeOfVarint` is the length of the encoding, and decoding inverts encoding.
-/
namespace Csproto

theorem encVarint_small {v : Nat} (h : v < 128) : encVarint v = [UInt8.ofNat v] := by
  rw [encVarint]; simp [h]
theorem encVarint_big {v : Nat} (h : ¬ v < 128) :
    encVarint v = UInt8.ofNat (v % 128 + 128) :: encVarint (v / 128) := by
  rw [encVarint]; simp [h]

theorem encVarint_length_pos (v : Nat) : 1 ≤ (encVarint v).length := by
  by_cases h : v < 128
  · rw [encVarint_small h]; simp
  · rw [encVarint_big h]; simp

theorem encVarint_ne_nil (v : Nat) : encVarint v ≠ [] := by
  intro h; have := encVarint_length_pos v; rw [h] at this; simp at this

theorem bitLen_le_iff (x k : Nat) (hx : x ≠ 0) : bitLen x ≤ k ↔ x < 2 ^ k := by
  unfold bitLen; simp [hx]
  rw [Nat.add_one_le_iff, Nat.log2_lt hx]

theorem or_one_ne_zero (v : Nat) : v ||| 1 ≠ 0 :=
  fun h => absurd (Nat.or_eq_zero_iff.mp h).2 (by decide)

theorem sizeOfVarint_le_iff (v n : Nat) (hn : 1 ≤ n) : sizeOfVarint v ≤ n ↔ v < 2 ^ (7 * n) := by
  unfold sizeOfVarint
  have h1 := or_one_ne_zero v
  rw [Nat.div_le_iff_le_mul_add_pred (by decide)]
  have : bitLen (v ||| 1) + 6 ≤ 7 * n + (7 - 1) ↔ bitLen (v ||| 1) ≤ 7 * n := by omega
  rw [this, bitLen_le_iff _ _ h1]
  constructor
  · intro h; exact Nat.lt_of_le_of_lt (Nat.left_le_or) h
  · intro h
    apply Nat.or_lt_two_pow h
    exact Nat.one_lt_two_pow (by omega)

theorem encVarint_length_le_iff (v n : Nat) (hn : 1 ≤ n) : (encVarint v).length ≤ n ↔ v < 2 ^ (7 * n) := by
  induction v using Nat.strongRecOn generalizing n with
  | _ v ih =>
    by_cases h : v < 128
    · rw [encVarint_small h]
      simp only [List.length_singleton]
      constructor
      · intro _
        calc v < 128 := h
          _ = 2 ^ 7 := by decide
          _ ≤ 2 ^ (7 * n) := Nat.pow_le_pow_right (by decide) (Nat.le_mul_of_pos_right 7 hn)
      · intro _; exact hn
    · rw [encVarint_big h]
      simp only [List.length_cons]
      match n, hn with
      | 1, _ =>
        constructor
        · intro hl
          have := encVarint_length_pos (v / 128)
          omega
        · intro hv; exfalso; have : (2:Nat) ^ (7 * 1) = 128 := by decide
          omega
      | n + 2, _ =>
        have := ih (v / 128) (Nat.div_lt_self (by omega) (by decide)) (n + 1) (Nat.le_add_left 1 n)
        rw [Nat.add_le_add_iff_right, this]
        rw [show 7 * (n + 2) = 7 * (n + 1) + 7 from rfl, Nat.pow_add]
        have : (2:Nat) ^ 7 = 128 := by decide
        rw [this, Nat.div_lt_iff_lt_mul (by decide)]

theorem sizeOfVarint_pos (v : Nat) : 1 ≤ sizeOfVarint v := by
  unfold sizeOfVarint bitLen
  simp [or_one_ne_zero v]; omega

theorem eq_of_forall_le_iff {a b : Nat} (ha : 1 ≤ a) (hb : 1 ≤ b) (h : ∀ n, 1 ≤ n → (a ≤ n ↔ b ≤ n)) : a = b :=
  Nat.le_antisymm ((h b hb).mpr (Nat.le_refl b)) ((h a ha).mp (Nat.le_refl a))

/-- `SizeOfVarint(v)` is exactly the number of bytes `EncodeVarint` writes, for every `v`. -/
theorem sizeOfVarint_eq_length (v : Nat) : sizeOfVarint v = (encVarint v).length :=
  eq_of_forall_le_iff (sizeOfVarint_pos v) (encVarint_length_pos v) fun n hn => by
    rw [sizeOfVarint_le_iff _ _ hn, encVarint_length_le_iff _ _ hn]

theorem encVarint_length_le_10 {v : Nat} (h : v < two64) : (encVarint v).length ≤ 10 := by
  rw [encVarint_length_le_iff v 10 (by decide)]
  calc v < two64 := h
    _ = 2 ^ 64 := two64_eq
    _ ≤ 2 ^ (7 * 10) := Nat.pow_le_pow_right (by decide) (by decide)

/-- the byte `EncodeVarint` writes for a group that is not the last -/
theorem contByte_toNat (v : Nat) : (UInt8.ofNat (v % 128 + 128)).toNat = v % 128 + 128 :=
  UInt8.toNat_ofNat_of_lt' (Nat.add_lt_add_right (Nat.mod_lt v (by decide)) 128)

theorem shiftLeft_split (v s : Nat) : (v % 128) <<< s ||| (v / 128) <<< (s + 7) = v <<< s := by
  have h : (v / 128) <<< 7 + v % 128 = v := by rw [Nat.shiftLeft_eq]; exact Nat.div_add_mod' v 128
  rw [Nat.add_comm s 7, Nat.shiftLeft_add, ← Nat.shiftLeft_or_distrib, Nat.or_comm,
    ← Nat.shiftLeft_add_eq_or_of_lt (show v % 128 < 2 ^ 7 from Nat.mod_lt v (by decide)), h]

/-- Reading the encoding of `v` ORs `v`, shifted to the current position and cut to 64 bits, into the accumulator: whatever the
    accumulator holds, the seven-bit groups go to disjoint places, so no bound is needed. -/
theorem decVarintLoop_enc (v : Nat) :
    ∀ (fuel shift acc n : Nat) (rest : Bytes), (encVarint v).length ≤ fuel →
      decVarintLoop fuel shift acc n (encVarint v ++ rest)
        = .ok (acc ||| (v <<< shift) % two64, n + (encVarint v).length) := by
  induction v using Nat.strongRecOn with
  | _ v ih =>
    intro fuel shift acc n rest hf
    obtain ⟨fuel, rfl⟩ : ∃ f, fuel = f + 1 := ⟨fuel - 1, by have := encVarint_length_pos v; omega⟩
    by_cases h : v < 128
    · rw [encVarint_small h, List.singleton_append, decVarintLoop, UInt8.toNat_ofNat_of_lt' (Nat.lt_trans h (by decide)),
        Nat.mod_eq_of_lt h, if_pos h]
      rfl
    · rw [encVarint_big h] at hf ⊢
      rw [List.cons_append, decVarintLoop, contByte_toNat, if_neg (Nat.not_lt.mpr (Nat.le_add_left ..)), Nat.add_mod_right,
        Nat.mod_mod, ih (v / 128) (Nat.div_lt_self (by omega) (by decide)) fuel _ _ _ rest (Nat.le_of_succ_le_succ hf),
        two64_eq, Nat.or_assoc, ← Nat.or_mod_two_pow, shiftLeft_split, List.length_cons, Nat.add_assoc, Nat.add_comm 1]

/-- **Varint round trip.** For every 64-bit value and every suffix, decoding the encoding returns
    the value and consumes exactly the bytes written. -/
theorem decodeVarint_encVarint (v : Nat) (hv : v < two64) (rest : Bytes) :
    decodeVarint (encVarint v ++ rest) = .ok (v, (encVarint v).length) := by
  have hl := decVarintLoop_enc v 10 0 0 0 rest (encVarint_length_le_10 hv)
  rw [Nat.zero_or, Nat.shiftLeft_zero, Nat.mod_eq_of_lt hv, Nat.zero_add] at hl
  by_cases h : v < 128
  · rw [encVarint_small h, List.singleton_append, decodeVarint, UInt8.toNat_ofNat_of_lt' (Nat.lt_trans h (by decide)), if_pos h]
    rfl
  · rw [encVarint_big h] at hl ⊢
    rw [List.cons_append] at hl ⊢
    rw [decodeVarint, contByte_toNat, if_neg (Nat.not_lt.mpr (Nat.le_add_left ..)), hl]

end Csproto
