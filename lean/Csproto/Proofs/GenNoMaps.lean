import Csproto.Proofs.GenMapRoundtrip
/-
  Message types without map fields (`SchemaOK`) as the special case of `GenMapRoundtrip`: such a schema meets
  `SchemaOKM` (`SchemaOK.toM`), on it the record tree with map records is the tree without (`recsFieldsM_eq`), and
  a value well formed in the sense of `WFs` is in the sense of `WFsM` (`WFs.toM`).  With these, the statements
  about `recsFields` / `WFs` — the well-formedness of the record tree, its fold, `roundtrip_nested` — are those of
  the map development.
-/
namespace Csproto.Gen
open Csproto Csproto.C01

theorem SchemaOK.toM {S : Schema} (hS : SchemaOK S) : SchemaOKM S := fun i =>
  ⟨(hS i).1, fun fd hfd hm => absurd hm ((hS i).2 fd hfd).1⟩

theorem SchemaOK.noMap {S : Schema} (hS : SchemaOK S) (i : Nat) : ∀ fd ∈ S.md i, fd.card ≠ .map :=
  fun fd hfd => ((hS i).2 fd hfd).1

mutual
theorem recsFieldsM_eq (S : Schema) (hS : SchemaOK S) : ∀ (base : Nat) (md : MD) (fs : List F),
    (∀ fd ∈ md, fd.card ≠ .map) → recsFieldsM S base md fs = recsFields S base md fs
  | _, [], [], _ => rfl
  | _, [], _ :: _, _ => rfl
  | _, _ :: _, [], _ => rfl
  | base, fd :: md, f :: fs, h => by
    show _ ++ _ = _ ++ _
    rw [recsFieldM_eq S hS base fd (h fd (List.mem_cons_self ..)) f,
      recsFieldsM_eq S hS (base + 1) md fs fun x hx => h x (List.mem_cons_of_mem _ hx)]
theorem recsFieldM_eq (S : Schema) (hS : SchemaOK S) (idx : Nat) (fd : FD) (hnm : fd.card ≠ .map) : ∀ (f : F),
    recsFieldM S idx fd f = recsField S idx fd f
  | .unset => rfl
  | .one v => by
    obtain ⟨num, ty, card⟩ := fd
    cases ty with
    | sc k => rfl
    | msg i => show [NRec.msg _ _ _ _] = [NRec.msg _ _ _ _]; rw [recsVM_eq S hS i v]
  | .many vs => by
    obtain ⟨num, ty, card⟩ := fd
    cases ty with
    | sc k => rfl
    | msg i => exact recsListM_eq S hS idx _ i hnm vs
theorem recsVM_eq (S : Schema) (hS : SchemaOK S) (i : Nat) : ∀ (v : V), recsVM S (S.md i) v = recsV S (S.md i) v
  | .msg fs _ => recsFieldsM_eq S hS 0 (S.md i) fs (hS.noMap i)
  | .num _ => rfl
  | .bs _ => rfl
theorem recsListM_eq (S : Schema) (hS : SchemaOK S) (idx : Nat) (fd : FD) (i : Nat) (hnm : fd.card ≠ .map) :
    ∀ (vs : List V), recsListM S idx fd i vs = recsList S idx fd i vs
  | [] => rfl
  | v :: vs => by
    have hn : (fd.card.isMap && nilEntry (S.md i) v) = false := by rw [isMap_of_ne hnm]; rfl
    rw [recsListM_live S idx vs hn, show recsList S idx fd i (v :: vs) = _ from if_neg (by simp [hn]),
      elemRec_of_not_map hnm, recsVM_eq S hS i v, recsListM_eq S hS idx fd i hnm vs]
end

mutual
theorem WFs.toM (S : Schema) (hS : SchemaOK S) : ∀ (md : MD) (fs : List F), (∀ fd ∈ md, fd.card ≠ .map) →
    WFs S md fs → WFsM S md fs
  | [], [], _, _ => trivial
  | [], _ :: _, _, h => h.elim
  | _ :: _, [], _, h => h.elim
  | fd :: md, f :: fs, hc, h =>
    ⟨WFf.toM S hS fd (hc fd (List.mem_cons_self ..)) f h.1, WFs.toM S hS md fs (fun x hx => hc x (List.mem_cons_of_mem _ hx)) h.2⟩
theorem WFf.toM (S : Schema) (hS : SchemaOK S) (fd : FD) (hnm : fd.card ≠ .map) : ∀ (f : F), WFf S fd f → WFfM S fd f :=
  fun f h => by
  obtain ⟨num, ty, card⟩ := fd
  cases ty with
  | sc k => cases f with
    | unset => trivial
    | one v => exact h
    | many vs => exact h
  | msg i =>
    cases f with
    | unset => trivial
    | one v => exact ⟨h.1, hnm, h.2.1, WFv.toM S hS i v h.2.2⟩
    | many vs => exact ⟨.inl h.1, h.2.1, WFvs.toM S hS i vs h.2.2⟩
theorem WFv.toM (S : Schema) (hS : SchemaOK S) (i : Nat) : ∀ (v : V), WFv S (S.md i) v → WFvM S (S.md i) v
  | .msg fs _, h => ⟨h.1, WFs.toM S hS (S.md i) fs (hS.noMap i) h.2.1,
      by rw [wires_recsFieldsM]; exact h.2.2.1, h.2.2.2⟩
  | .num _, h => h.elim
  | .bs _, h => h.elim
theorem WFvs.toM (S : Schema) (hS : SchemaOK S) (i : Nat) : ∀ (vs : List V), WFvs S (S.md i) vs → WFvsM S (S.md i) vs
  | [], _ => trivial
  | v :: vs, h => ⟨WFv.toM S hS i v h.1, WFvs.toM S hS i vs h.2⟩
end

theorem recField_ok (S : Schema) (hS : SchemaOK S) (mdAll : MD) (fd : FD) (idx : Nat)
    (hfind : findField mdAll fd.num 0 = some (idx, fd)) (hnm : fd.card ≠ .map) : ∀ (f : F), WFf S fd f →
    OKs S mdAll (recsField S idx fd f) := fun f hwf => by
  rw [← recsFieldM_eq S hS idx fd hnm f]
  exact recField_okM S hS.toM mdAll fd idx hfind (fun hm => absurd hm hnm) f (WFf.toM S hS fd hnm f hwf)

theorem recV_ok (S : Schema) (hS : SchemaOK S) (md : MD) : ∀ (v : V), WFv S md v →
    (∃ i, md = S.md i) → OKs S md (recsV S md v) := fun v hwf ⟨i, hi⟩ => by
  subst hi
  rw [← recsVM_eq S hS i v]
  exact recV_okM S hS.toM (S.md i) v (WFv.toM S hS i v hwf) ⟨i, rfl⟩

/-- stated for any cardinality but a map's (`recList_okM`: for `list`), hence proved on its own -/
theorem recList_ok (S : Schema) (hS : SchemaOK S) (mdAll : MD) (fd : FD) (idx i : Nat)
    (hfind : findField mdAll fd.num 0 = some (idx, fd)) (hty : fd.ty = .msg i) (htag : ValidTag fd.num)
    (hnm : fd.card ≠ .map) : ∀ (vs : List V), WFvs S (S.md i) vs → OKs S mdAll (recsList S idx fd i vs)
  | [], _ => trivial
  | v :: vs, hwf => by
    have : recsList S idx fd i (v :: vs) = .msg idx fd i (recsV S (S.md i) v) :: recsList S idx fd i vs :=
      if_neg (by simp [isMap_of_ne hnm])
    rw [this]
    exact ⟨⟨hfind, hty, htag, hnm, recsV_len S _ v hwf.1, recV_ok S hS (S.md i) v hwf.1 ⟨i, rfl⟩⟩,
      recList_ok S hS mdAll fd idx i hfind hty htag hnm vs hwf.2⟩

theorem fold_msgV (S : Schema) (hS : SchemaOK S) (md : MD) (hmd : ∃ i, md = S.md i) : ∀ (v : V) (body : Bytes),
    WFv S md v → bytesMsgV S md v = .ok body →
    ∃ cfs, canonV S md v = .msg cfs [] ∧ decodeMsgN S md (recsV S md v) = .ok (cfs, []) := fun v body hwf hb => by
  obtain ⟨i, rfl⟩ := hmd
  rw [← recsVM_eq S hS i v]
  exact fold_msgVM S hS.toM (S.md i) ⟨i, rfl⟩ v body (WFv.toM S hS i v hwf) hb

theorem fold_list (S : Schema) (hS : SchemaOK S) (mdAll : MD) (idx : Nat) (fd : FD) (i : Nat) (hno : ∀ g, fd.card ≠ .oneof g)
    (hlist : fd.card = .list) : ∀ (vs : List V) (ops : List EncOp) (acc : List V) (fs : List F) (unk : Bytes),
    idx < fs.length → fs.getD idx .unset = .many acc → WFvs S (S.md i) vs → opsMsgList S (S.md i) fd.num false vs = .ok ops →
    foldN S mdAll (recsList S idx fd i vs) (fs, unk) = .ok (fs.set idx (.many (acc ++ canonVs S (S.md i) false vs)), unk) :=
  fun vs ops acc fs unk hlt hcur hwf ho => by
  rw [← recsListM_eq S hS idx fd i (by rw [hlist]; nofun) vs]
  exact fold_listM S hS.toM mdAll idx fd i hno hlist vs ops acc fs unk hlt hcur (WFvs.toM S hS i vs hwf) ho

theorem fold_field (S : Schema) (hS : SchemaOK S) (mdAll : MD) (idx : Nat) (fd : FD) :
    ∀ (f : F) (ops : List EncOp) (fs : List F) (unk : Bytes), (f ≠ .unset → AssignPlain mdAll fd idx fs) →
    idx < fs.length → fs.getD idx .unset = initField fd →
    WFf S fd f → opsField S fd f = .ok ops →
    foldN S mdAll (recsField S idx fd f) (fs, unk) = .ok (fs.set idx (canonF S fd f), unk) :=
  fun f ops fs unk hap hlt hcur hwf ho => by
  by_cases hm : fd.card = .map
  · -- `WFf` admits a singular field with the cardinality of a map, `WFfM` does not
    cases f with
    | unset => show Res.ok _ = Res.ok (fs.set idx (initField fd), unk); rw [set_getD_self fs idx _ hlt hcur]
    | one v =>
      obtain ⟨num, ty, card⟩ := fd
      cases hm
      cases ty with
      | sc k => rw [recsField_sc S idx rfl]; exact foldN_fieldRecs unk rfl (hap nofun) hlt hcur (wff_sc rfl hwf).1
      | msg i =>
        obtain ⟨body, hb, -⟩ := opsField_ok_one_msg rfl ho
        obtain ⟨cfs, hcv, hd⟩ := fold_msgV S hS (S.md i) ⟨i, rfl⟩ v body hwf.2.2 hb
        show foldN S mdAll [.msg ..] _ = .ok (fs.set idx (.one (canonV S (S.md i) v)), unk)
        rw [hcv, foldN_cons_ok [] (applyN_one unk (hap nofun) rfl hd)]
        rfl
    | many vs =>
      obtain ⟨num, ty, card⟩ := fd
      cases hm
      cases ty with
      | sc k => exact nomatch hwf.1.1
      | msg i => exact nomatch hwf.1
  · rw [← recsFieldM_eq S hS idx fd hm f]
    exact fold_fieldM S hS.toM mdAll idx fd (fun h => absurd h hm) f ops fs unk hap hlt hcur (WFf.toM S hS fd hm f hwf) ho

/-- **Round trip of a message with nested messages (singular, repeated, any depth, recursive types), with
    unknown fields at the top level, in either decoder mode**: `Unmarshal(Marshal(m))` is `m` with its values
    normalised to their field width, presence included at every level, and the unknown fields come back byte
    for byte. -/
theorem roundtrip_nested (S : Schema) (hS : SchemaOK S) (fast : Bool) (i : Nat) (fs : List F) (urs : List Rec)
    (ops : List EncOp) (hwf : WFs S (S.md i) fs) (hex : Excl (S.md i) fs) (hok : OKFields S (S.md i) fs)
    (hu : ∀ r ∈ urs, r.OK ∧ findField (S.md i) r.tag 0 = none)
    (ho : opsFields S (S.md i) fs = .ok ops) :
    unmarshal S fast (S.md i) (wiresOf ops ++ Csproto.wiresOf urs)
      = .ok (canonFs S (S.md i) fs, Csproto.wiresOf urs) :=
  roundtrip_map S hS.toM fast i fs urs ops (WFs.toM S hS _ fs (hS.noMap i) hwf) hex hok hu ho

end Csproto.Gen
