import Csproto.Model.GenDec
import Csproto.Props.C03
/-
  The generated `Unmarshal` is total: built from decoder calls none of which can panic (C03), it
  never panics itself, for any schema, any input and either decoder mode.
-/
namespace Csproto.Gen
open Csproto Csproto.C03

def Safe {α} (r : Res (Dec × α)) : Prop := r ≠ .panic ∧ ∀ d' a, r = .ok (d', a) → d'.Inv

/-- `C03.step_safe` for a call whose result has been named -/
theorem step_eq_safe {d d' : Dec} {op : DecOp} {o : DecOut} {a : Nat} (hi : d.Inv) (h : d.step op = (d', o, a)) :
    d'.Inv ∧ o ≠ .panic := by
  have hs := step_safe d hi op
  rw [h] at hs
  exact ⟨hs.inv, hs.noPanic⟩

theorem Safe.err {α} : Safe (.err : Res (Dec × α)) := ⟨nofun, nofun⟩

theorem Safe.map {α β} {r : Res (Dec × α)} (h : Safe r) (f : α → β) : Safe (r.map fun x => (x.1, f x.2)) := by
  cases r with
  | ok x => exact ⟨nofun, fun d' b e => by cases e; exact h.2 _ _ rfl⟩
  | err => exact Safe.err
  | panic => exact absurd rfl h.1

/-- a decoder call whose value is handed on, its error and its panic passed through -/
theorem Safe.step {β} (d : Dec) (hi : d.Inv) (op : DecOp) (g : Item → β) :
    Safe (match d.step op with
      | (d', .ok it, _) => .ok (d', g it)
      | (_, .panic, _) => .panic
      | _ => .err) := by
  have hs := step_safe d hi op
  generalize d.step op = r at hs
  obtain ⟨d1, o, a⟩ := r
  cases o with
  | ok it => exact ⟨nofun, fun d' v h => by cases h; exact hs.inv⟩
  | panic => exact absurd rfl hs.noPanic
  | err => exact Safe.err
  | errNested _ => exact Safe.err

theorem readScalar_safe (k : SK) (d : Dec) (wt : Nat) (hi : d.Inv) : Safe (readScalar k d wt) := by
  unfold readScalar
  split
  · exact Safe.err
  · exact Safe.step d hi _ _

theorem readRepeated_safe (k : SK) (d : Dec) (wt : Nat) (hi : d.Inv) : Safe (readRepeated k d wt) := by
  have h1 := (readScalar_safe k d wt hi).map fun v => [v]
  unfold readRepeated
  split
  · exact h1
  · split
    · exact h1
    · split
      · exact Safe.step d hi _ _
      · exact Safe.err

/-- the four mutually recursive parts of the generated `Unmarshal`, by induction on the fuel -/
theorem no_panic_aux (S : Schema) (fast : Bool) : ∀ (fuel : Nat),
    (∀ md p, unmarshalMsg S fast fuel md p ≠ .panic) ∧
    (∀ md d fs unk, d.Inv → unmarshalLoop S fast fuel md d fs unk ≠ .panic) ∧
    (∀ fd wt d cur, d.Inv → Safe (fieldStep S fast fuel fd wt d cur)) ∧
    (∀ emd d efs, d.Inv → entryLoop S fast fuel emd d efs ≠ .panic) := by
  intro fuel
  induction fuel with
  | zero => exact ⟨fun _ _ => nofun, fun _ _ _ _ _ => nofun, fun _ _ _ _ _ => Safe.err, fun _ _ _ _ => nofun⟩
  | succ fuel ih =>
    obtain ⟨ihM, ihL, ihF, ihE⟩ := ih
    have newInv : ∀ (p : Bytes), ({ p := p, off := 0, fast := fast } : Dec).Inv := fun p => Nat.zero_le _
    have msg : ∀ md p, unmarshalMsg S fast (fuel + 1) md p ≠ .panic := by
      intro md p
      rw [unmarshalMsg]
      split
      · nofun
      · have := ihL md { p := p, off := 0, fast := fast } (initFields md) [] (newInv p)
        split
        · split <;> nofun
        · assumption
    have loop : ∀ md d fs unk, d.Inv → unmarshalLoop S fast (fuel + 1) md d fs unk ≠ .panic := by
      intro md d fs unk hi
      rw [unmarshalLoop]
      split
      · nofun
      · split
        · rename_i d1 num wt a heq
          have h1 := (step_eq_safe hi heq).1
          split
          · rename_i idx fd _
            have hF := ihF fd wt d1 (fs.getD idx .unset) h1
            split
            · rename_i d2 f hfs
              exact ihL md d2 _ unk (hF.2 d2 f hfs)
            · nofun
            · rename_i hfs; exact absurd hfs hF.1
          · split
            · rename_i d2 b a2 heq2
              exact ihL md d2 fs _ (step_eq_safe h1 heq2).1
            · rename_i heq2; exact absurd rfl (step_eq_safe h1 heq2).2
            · nofun
        · rename_i heq; exact absurd rfl (step_eq_safe hi heq).2
        · nofun
    have field : ∀ fd wt d cur, d.Inv → Safe (fieldStep S fast (fuel + 1) fd wt d cur) := by
      intro fd wt d cur hi
      rw [fieldStep]
      split
      · rename_i k _
        have hR := (readRepeated_safe k d wt hi).map (appendTo cur)
        have hS := (readScalar_safe k d wt hi).map F.one
        split <;> first | exact hR | exact hS
      · rename_i i _
        split
        · exact Safe.err
        · have hb := bytesOp_safe d hi
          split
          · rename_i d' payload heq
            rw [heq] at hb
            have hE := ihE (S.md i) { p := payload, off := 0, fast := fast } (initFields (S.md i)) (newInv payload)
            have hM := ihM (S.md i) payload
            have ok : ∀ f : F, Safe (Res.ok (d', f)) := fun f => ⟨nofun, fun _ _ e => by cases e; exact hb.2.1⟩
            split
            · split
              · exact ok _
              · exact Safe.err
              · rename_i he; exact absurd he hE
            all_goals
              split
              · exact ok _
              · exact Safe.err
              · rename_i hm; exact absurd hm hM
          · rename_i heq; rw [heq] at hb; exact absurd rfl hb.1
          · exact Safe.err
    have entry : ∀ emd d efs, d.Inv → entryLoop S fast (fuel + 1) emd d efs ≠ .panic := by
      intro emd d efs hi
      rw [entryLoop]
      split
      · nofun
      · split
        · rename_i d1 num wt a heq
          have h1 := (step_eq_safe hi heq).1
          split
          · rename_i idx fd _
            have hF := ihF fd wt d1 (efs.getD idx .unset) h1
            split
            · rename_i d2 f hfs
              exact ihE emd d2 _ (hF.2 d2 f hfs)
            · nofun
            · rename_i hfs; exact absurd hfs hF.1
          · split
            · rename_i d2 it a2 heq2
              exact ihE emd d2 efs (step_eq_safe h1 heq2).1
            · rename_i heq2; exact absurd rfl (step_eq_safe h1 heq2).2
            · nofun
        · rename_i heq; exact absurd rfl (step_eq_safe hi heq).2
        · nofun
    exact ⟨msg, loop, field, entry⟩

theorem unmarshal_no_panic (S : Schema) (fast : Bool) (md : MD) (p : Bytes) : unmarshal S fast md p ≠ .panic :=
  (no_panic_aux S fast _).1 md p

end Csproto.Gen
