import Csproto.Model.GenMap
import Csproto.Proofs.Gen
/-
  The literal transcription of the map snippets (`Model/GenMap.lean`) against the arms of `Model/Gen.lean`
  that model a map field as a repeated field of its entry type: same `Size()` contribution, same bytes, and
  every call has a determined outcome (`OpExact`), so `run_exact` applies to either.
-/
namespace Csproto.Gen
open Csproto Csproto.C01

variable (S : Schema) (num : Nat) (kk : SK) (vty : Ty)

theorem sizeOfTagKey_two : sizeOfTagKey 2 = 1 := by decide

/-- the template's `keySize` (literal `1 +`) is the size arm of a scalar field number 1 -/
theorem tKeySize_eq (k : V) (h : legalKey kk = true) : tKeySize kk k = scalarSize kk 1 k := by
  cases kk <;> first | rfl | cases h

/-- the template's scalar `valueSize` (literal `1 +`) is the size arm of a scalar field number 2 -/
theorem tValSizeSc_eq (kv : SK) (v : V) : tValSizeSc kv v = scalarSize kv 2 v := by
  cases kv <;> rfl

/-- an entry as the marshal-side model holds it -/
def mkEntry (k v : V) : V := .msg [.one k, .one v] []

/-- `csproto.Size` of the entry seen as a message of the entry type = `keySize + valueSize` -/
theorem entry_size (k v : V) (h : legalKey kk = true) :
    sizeMsgV S (entryMD kk vty) (mkEntry k v) = tKeySize kk k + tValSize S vty v := by
  rw [tKeySize_eq kk k h]
  cases vty with
  | sc kv => exact congrArg (scalarSize kk 1 k + ·) (tValSizeSc_eq kv v).symm
  | msg j =>
    show scalarSize kk 1 k + (sizeOfTagKey 2 + _ + _ + 0) + 0 = _
    rw [sizeOfTagKey_two]; rfl

/-- one iteration of `MarshalMapEntry`: `EncodeMapEntryHeader(n, itemSize)`, then the calls that `MarshalTo` of the
    entry, seen as a message of the entry type, makes (key writer, value writer); it fails when that fails -/
theorem tEntryOps_eq (k v : V) :
    tEntryOps S num kk vty k v =
      (opsFields S (entryMD kk vty) [.one k, .one v]).map (EncOp.mapHeader num (tValSize S vty v + tKeySize kk k) :: ·) := by
  cases vty with
  | sc kv => rfl
  | msg j =>
    -- both sides are a case distinction on `bytesMsgV` of the value
    show (match bytesMsgV S (S.md j) v with | .ok b => _ | .err => _ | .panic => _) = Res.map _
      (match (match (match bytesMsgV S (S.md j) v with | .ok b => _ | .err => _ | .panic => _ : Res (List EncOp)) with
        | Res.ok a => _ | r => r : Res (List EncOp)) with | Res.ok b => _ | r => r)
    cases bytesMsgV S (S.md j) v <;> rfl

/-- the header and the entry's calls write the bytes of the one `EncodeNested`-shaped call of the model -/
theorem wires_mapHeader (k v : V) (h : legalKey kk = true) (ops : List EncOp) :
    wiresOf (.mapHeader num (tValSize S vty v + tKeySize kk k) :: ops)
      = (EncOp.nested num (sizeMsgV S (entryMD kk vty) (mkEntry k v)) 0 (some (wiresOf ops ++ []))).wire := by
  rw [entry_size S kk vty k v h, Nat.add_comm, List.append_nil, wiresOf_cons]; rfl

/-- the entries of a Go map value, as the marshal-side model holds them: key and value, or — in a message-valued
    map only — key and nil pointer -/
def IsEntry (vty : Ty) : V → Prop
  | .msg [.one _, .one _] [] => True
  | .msg [.one _, .unset] [] => ∃ j, vty = .msg j
  | _ => False

/-- the model's test (`nilEntry`, on the entry type) is the template's test (`tNil`, on the value kind) -/
theorem nilEntry_entryMD (e : V) : nilEntry (entryMD kk vty) e = tNil vty e := by
  cases vty <;> rfl

theorem IsEntry.eq {vty : Ty} {e : V} (h : IsEntry vty e) (hn : tNil vty e = false) : ∃ k v, e = mkEntry k v := by
  match e, h with
  | .msg [.one k, .one v] [], _ => exact ⟨k, v, rfl⟩
  | .msg [.one k, .unset] [], ⟨j, hj⟩ => subst hj; cases hn

/-- the `range` loop of `SizeOfMapEntry` adds what the `sizeMsgList` arm adds, whatever the iteration order -/
theorem tMapSize_eq (h : legalKey kk = true) :
    ∀ (es : List V), (∀ e ∈ es, IsEntry vty e) →
      tMapSize S num kk vty es = sizeMsgList S (entryMD kk vty) num true es
  | [], _ => rfl
  | e :: es, hes => by
    have ih := tMapSize_eq h es fun x hx => hes x (List.mem_cons_of_mem _ hx)
    show (if tNil vty e then 0 else _) + _ = (if true && nilEntry (entryMD kk vty) e then 0 else _) + _
    rw [ih, Bool.true_and, nilEntry_entryMD]
    cases hn : tNil vty e with
    | true => rfl  -- `if v != nil { … }` is not entered: nothing is added by either
    | false =>
      obtain ⟨k, v, rfl⟩ := (hes e (List.mem_cons_self ..)).eq hn
      refine congrArg (· + _) ?_
      show tEntrySize S num kk vty k v = _ + sizeOfVarint (sizeMsgV S _ (mkEntry k v)) + sizeMsgV S _ (mkEntry k v)
      rw [entry_size S kk vty k v h]; unfold tEntrySize; omega

/-- the calls `a` in front on one side, the one call `op` with the same bytes on the other -/
theorem wires_cons_congr {A O : Res (List EncOp)} (h : A.map wiresOf = O.map wiresOf) {a : List EncOp} {op : EncOp}
    (hw : wiresOf a = op.wire) :
    (match A with | .ok b => Res.ok (a ++ b) | r => r).map wiresOf
      = (match O with | .ok rest => Res.ok (op :: rest) | r => r).map wiresOf := by
  cases A with
  | ok b =>
    cases O with
    | ok rest =>
      show Res.ok (wiresOf (a ++ b)) = Res.ok (wiresOf (op :: rest))
      rw [wiresOf_append, wiresOf_cons, hw, Res.ok.inj h]
    | _ => cases h
  | _ => cases O <;> first | rfl | cases h

theorem tMapOps_skip {e : V} (es : List V) (hn : tNil vty e = true) :
    tMapOps S num kk vty (e :: es) = tMapOps S num kk vty es := if_pos hn

theorem tMapOps_live {e : V} (es : List V) (hn : tNil vty e = false) :
    tMapOps S num kk vty (e :: es) =
      match tEntryOps S num kk vty (entryKey e) (entryVal e) with
      | .ok a =>
        match tMapOps S num kk vty es with
        | .ok b => .ok (a ++ b)
        | r => r
      | r => r :=
  if_neg (by rw [hn]; exact Bool.false_ne_true)

/-- the `range` loop of `MarshalMapEntry` against the `opsMsgList` arm: same outcome (ok / error / panic), same bytes -/
theorem tMapOps_eq (h : legalKey kk = true) :
    ∀ (es : List V), (∀ e ∈ es, IsEntry vty e) →
    (tMapOps S num kk vty es).map wiresOf = (opsMsgList S (entryMD kk vty) num true es).map wiresOf
  | [], _ => rfl
  | e :: es, hes => by
    have ih := tMapOps_eq h es fun x hx => hes x (List.mem_cons_of_mem _ hx)
    have hn' := nilEntry_entryMD kk vty e
    cases hn : tNil vty e with
    | true =>
      -- `if v == nil { continue }`: no call is made by either
      rw [tMapOps_skip S num kk vty es hn,
        show opsMsgList S (entryMD kk vty) num true (e :: es) = opsMsgList S _ num true es from if_pos (hn'.trans hn)]
      exact ih
    | false =>
      rw [tMapOps_live S num kk vty es hn,
        show opsMsgList S (entryMD kk vty) num true (e :: es) = _ from if_neg (by simp [hn', hn])]
      obtain ⟨k, v, rfl⟩ := (hes e (List.mem_cons_self ..)).eq hn
      show (match tEntryOps S num kk vty k v with | .ok a => _ | r => r : Res _).map wiresOf =
        (match (match opsFields S (entryMD kk vty) [.one k, .one v] with
          | .ok ops => Res.ok (wiresOf ops ++ []) | .err => .err | .panic => .panic) with
          | .ok body => _ | .err => .err | .panic => .panic : Res _).map wiresOf
      rw [tEntryOps_eq]
      cases opsFields S (entryMD kk vty) [.one k, .one v] with
      | ok ops => exact wires_cons_congr ih (wires_mapHeader S num kk vty k v h ops)
      | err => rfl
      | panic => rfl

theorem tMapOps_exact :
    ∀ (es : List V) (ops : List EncOp), (∀ e ∈ es, IsEntry vty e) → OKMsgList S (entryMD kk vty) es →
      tMapOps S num kk vty es = .ok ops → ∀ op ∈ ops, OpExact op
  | [], _, _, _, ho => by cases ho; exact List.forall_mem_nil _
  | e :: es, ops, hes, hok, ho => by
    have ih := tMapOps_exact es
    cases hn : tNil vty e with
    | true => exact ih ops (fun x hx => hes x (List.mem_cons_of_mem _ hx)) hok.2 ((tMapOps_skip S num kk vty es hn).symm.trans ho)
    | false =>
      rw [tMapOps_live S num kk vty es hn] at ho
      obtain ⟨k, v, rfl⟩ := (hes e (List.mem_cons_self ..)).eq hn
      change (match tEntryOps S num kk vty k v with | .ok a => _ | r => r) = _ at ho
      rw [tEntryOps_eq] at ho
      cases hr : opsFields S (entryMD kk vty) [.one k, .one v] with
      | ok o =>
        cases ht : tMapOps S num kk vty es with
        | ok b =>
          rw [hr, ht] at ho
          cases ho
          intro op hop
          rcases List.mem_append.mp hop with h1 | h1
          · rcases List.mem_cons.mp h1 with rfl | h2
            · trivial
            · exact (fields_exact S _ _ o hok.1 hr).2 op h2
          · exact ih b (fun x hx => hes x (List.mem_cons_of_mem _ hx)) hok.2 ht op h1
        | _ => rw [hr, ht] at ho; cases ho
      | _ => rw [hr] at ho; cases ho

/-- C04 for the snippets as written: the `range` loop of `SizeOfMapEntry` adds exactly the number of bytes
    the calls of the `range` loop of `MarshalMapEntry` write, and running those calls on an encoder with that
    much room appends exactly those bytes (no panic, no slack) — for the entries in any order -/
theorem tMap_exact (h : legalKey kk = true) (ht : ValidTag num)
    (es : List V) (hes : ∀ e ∈ es, IsEntry vty e) (hok : OKMsgList S (entryMD kk vty) es)
    (ops : List EncOp) (ho : tMapOps S num kk vty es = .ok ops) :
    tMapSize S num kk vty es = (wiresOf ops).length ∧
      ∀ (e : Enc), e.Room (wiresOf ops).length → ∃ e', e.run ops = .ok e' ∧ Enc.Appended e e' (wiresOf ops) := by
  refine ⟨?_, fun e hroom => run_exact ops e (tMapOps_exact S num kk vty es ops hes hok ho) hroom⟩
  have hw := tMapOps_eq S num kk vty h es hes
  rw [ho] at hw
  cases hr : opsMsgList S (entryMD kk vty) num true es with
  | ok ops0 =>
    rw [hr] at hw
    rw [tMapSize_eq S num kk vty h es hes, (msgList_exact S (entryMD kk vty) num true es ops0 ht hok hr).1,
      ← Res.ok.inj hw]
  | _ => rw [hr] at hw; cases hw

end Csproto.Gen
