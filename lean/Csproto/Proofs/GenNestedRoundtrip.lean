import Csproto.Proofs.GenRoundtrip
/-
  Messages with nested messages (singular, repeated, members of real oneofs; any depth; recursive types) as
  trees of records: the record tree `Marshal` writes, the message after a round trip, the well-formedness of
  schema and value under which `roundtrip_nested` is stated (no maps, unknown fields at the top level only), and
  the marshal side: the bytes of the encoder calls are the wire form of the record tree.

  The decode side is carried by `GenMapRoundtrip`, for record trees with map records; `GenNoMaps` draws the
  map-free case from it.  What that argument needs and is independent of either notion of well-formedness is
  stated here.
-/
namespace Csproto.Gen
open Csproto Csproto.C01

mutual
/-- the record tree `Marshal` writes for a message value -/
def recsFields (S : Schema) : Nat → MD → List F → List NRec
  | base, fd :: md, f :: fs => recsField S base fd f ++ recsFields S (base + 1) md fs
  | _, _, _ => []
def recsField (S : Schema) (idx : Nat) (fd : FD) : F → List NRec
  | .unset => []
  | .one v =>
    match fd.ty with
    | .sc _ => (fieldRecs idx fd (.one v)).map NRec.flat
    | .msg i => [.msg idx fd i (recsV S (S.md i) v)]
  | .many vs =>
    match fd.ty with
    | .sc _ => (fieldRecs idx fd (.many vs)).map NRec.flat
    | .msg i => recsList S idx fd i vs
def recsV (S : Schema) (md : MD) : V → List NRec
  | .msg fs _ => recsFields S 0 md fs
  | _ => []
def recsList (S : Schema) (idx : Nat) (fd : FD) (i : Nat) : List V → List NRec
  | [] => []
  | v :: vs =>
    -- a nil-valued entry of a message-valued map: no record
    if fd.card.isMap && nilEntry (S.md i) v then recsList S idx fd i vs
    else .msg idx fd i (recsV S (S.md i) v) :: recsList S idx fd i vs
end

mutual
/-- the message after a round trip -/
def canonFs (S : Schema) : MD → List F → List F
  | fd :: md, f :: fs => canonF S fd f :: canonFs S md fs
  | md, _ => md.map initField
def canonF (S : Schema) (fd : FD) : F → F
  | .unset => initField fd
  | .one v =>
    match fd.ty with
    | .sc _ => canonField fd (.one v)
    | .msg i => .one (canonV S (S.md i) v)
  | .many vs =>
    match fd.ty with
    | .sc _ => canonField fd (.many vs)
    | .msg i => .many (canonVs S (S.md i) fd.card.isMap vs)
def canonV (S : Schema) (md : MD) : V → V
  | .msg fs _ => .msg (canonFs S md fs) []
  | v => v
/-- the elements of a repeated message field (`sk = false`) / the entries of a map field (`sk = true`: an entry whose
    message value is a nil pointer was not written, so it is not there) after a round trip -/
def canonVs (S : Schema) (md : MD) (sk : Bool) : List V → List V
  | [] => []
  | v :: vs => if sk && nilEntry md v then canonVs S md sk vs else canonV S md v :: canonVs S md sk vs
end

mutual
/-- nested messages carry no unknown fields of their own (the top level may) -/
def CleanFs : List F → Prop
  | [] => True
  | f :: fs => CleanF f ∧ CleanFs fs
def CleanF : F → Prop
  | .unset => True
  | .one v => CleanV v
  | .many vs => CleanVs vs
def CleanV : V → Prop
  | .msg fs unk => unk = [] ∧ CleanFs fs
  | _ => True
def CleanVs : List V → Prop
  | [] => True
  | v :: vs => CleanV v ∧ CleanVs vs
end

/-! The recursive functions and predicates of this file are used by evaluation: on constructors they unfold by
    `rfl`, and an arm selected by `fd.ty` or `fd.card` does once the descriptor is taken apart
    (`obtain ⟨num, ty, card⟩ := fd`).  For a scalar field, whatever its state: -/

theorem recsField_sc (S : Schema) (idx : Nat) {fd : FD} {k : SK} (hty : fd.ty = .sc k) (f : F) :
    recsField S idx fd f = (fieldRecs idx fd f).map NRec.flat := by
  obtain ⟨_, _, _⟩ := fd; cases hty; cases f <;> rfl

theorem canonF_sc (S : Schema) {fd : FD} {k : SK} (hty : fd.ty = .sc k) (f : F) : canonF S fd f = canonField fd f := by
  obtain ⟨_, _, _⟩ := fd; cases hty; cases f <;> rfl

/-- `EncodeNested` of a message whose `Size()` is exact writes the length-delimited record of its record tree -/
theorem nested_wire_rec (idx : Nat) (fd : FD) (i : Nat) {sz : Nat} {body : Bytes} {sub : List NRec}
    (hl : sz = body.length) (hb : body = wiresN sub) :
    (EncOp.nested fd.num sz 0 (some body)).wire = (NRec.msg idx fd i sub).wire := by
  subst hl hb; simp [EncOp.wire, NRec.wire]

mutual
theorem ops_recsFields (S : Schema) : ∀ (base : Nat) (md : MD) (fs : List F) (ops : List EncOp),
    OKFields S md fs → CleanFs fs → opsFields S md fs = .ok ops → wiresOf ops = wiresN (recsFields S base md fs)
  | _, [], fs, ops, _, _, ho => by cases (opsFields_nil (Or.inl rfl)).symm.trans ho; cases fs <;> rfl
  | _, _ :: _, [], ops, _, _, ho => by cases (opsFields_nil (Or.inr rfl)).symm.trans ho; rfl
  | base, fd :: md, f :: fs, ops, hok, hcl, ho => by
    obtain ⟨a, b, ha, hb, rfl⟩ := opsFields_ok_cons ho
    rw [wiresOf_append, recsFields, wiresN_append, ops_recsField S base fd f a hok.1 hcl.1 ha,
      ops_recsFields S (base + 1) md fs b hok.2 hcl.2 hb]
theorem ops_recsField (S : Schema) (idx : Nat) (fd : FD) : ∀ (f : F) (ops : List EncOp),
    OKField S fd f → CleanF f → opsField S fd f = .ok ops → wiresOf ops = wiresN (recsField S idx fd f) := fun f ops hok hcl ho => by
  obtain ⟨num, ty, card⟩ := fd
  cases ty with
  | sc k => rw [recsField_sc S idx rfl, wiresN_flat]; exact opsField_recs S idx _ k rfl f ops ho
  | msg i =>
    cases f with
    | unset => cases (opsField_ok_unset ho).2; rfl
    | one v =>
      obtain ⟨body, hb, rfl⟩ := opsField_ok_one_msg rfl ho
      show (EncOp.nested ..).wire ++ [] = (NRec.msg ..).wire ++ []
      rw [nested_wire_rec idx _ i (msgV_exact S (S.md i) v body hok.2 hb) (bytes_recsV S (S.md i) v body hok.2 hcl hb)]
    | many vs => exact ops_recsList S idx _ i vs ops hok.2 hcl ho
theorem bytes_recsV (S : Schema) (md : MD) : ∀ (v : V) (body : Bytes),
    OKMsgV S md v → CleanV v → bytesMsgV S md v = .ok body → body = wiresN (recsV S md v)
  | .msg fs unk, body, hok, hcl, hb => by
    obtain ⟨ops, ho, rfl⟩ := bytesMsgV_ok_msg hb
    rw [hcl.1, List.append_nil, recsV, ops_recsFields S 0 md fs ops hok hcl.2 ho]
  | .num _, body, _, _, hb => by cases hb; rfl
  | .bs _, body, _, _, hb => by cases hb; rfl
theorem ops_recsList (S : Schema) (idx : Nat) (fd : FD) (i : Nat) : ∀ (vs : List V) (ops : List EncOp),
    OKMsgList S (S.md i) vs → CleanVs vs → opsMsgList S (S.md i) fd.num fd.card.isMap vs = .ok ops →
    wiresOf ops = wiresN (recsList S idx fd i vs)
  | [], ops, _, _, ho => by cases ho; rfl
  | v :: vs, ops, hok, hcl, ho => by
    rw [recsList]
    by_cases hn : (fd.card.isMap && nilEntry (S.md i) v) = true
    · rw [opsMsgList_cons, if_pos hn] at ho
      rw [if_pos hn]
      exact ops_recsList S idx fd i vs ops hok.2 hcl.2 ho
    · obtain ⟨body, rest, hb, hr, rfl⟩ := opsMsgList_ok_cons (Bool.eq_false_iff.mpr hn) ho
      rw [if_neg hn, wiresOf_cons, wiresN, ops_recsList S idx fd i vs rest hok.2 hcl.2 hr,
        nested_wire_rec idx fd i (msgV_exact S (S.md i) v body hok.1 hb) (bytes_recsV S (S.md i) v body hok.1 hcl.1 hb)]
end

/-- the message types `roundtrip_nested` covers: distinct field numbers, no map fields and no map-entry fields -/
def SchemaOK (S : Schema) : Prop :=
  ∀ i, NoDupNums (S.md i) ∧ ∀ fd ∈ S.md i, fd.card ≠ .map ∧ fd.card ≠ .always

/-- at most one member of every real oneof is set -/
def Excl (md : MD) (fs : List F) : Prop :=
  ∀ (i j : Nat) (fdi fdj : FD) (g : Nat), md[i]? = some fdi → md[j]? = some fdj → fdi.card = .oneof g → fdj.card = .oneof g → i ≠ j →
    fs[i]? = some F.unset ∨ fs[j]? = some F.unset

/-- a message type without oneof members puts no constraint on which fields are set -/
theorem excl_of_no_oneof (md : MD) (h : ∀ fd ∈ md, ∀ g, fd.card ≠ .oneof g) (fs : List F) : Excl md fs := by
  intro i j fdi fdj g hi _ hgi _ _
  exact absurd hgi (h fdi (List.mem_of_getElem? hi) g)

/-- the same with the hypothesis as a computation over a concrete message type -/
theorem excl_of_all_not_oneof (md : MD)
    (h : (md.all fun fd => match fd.card with | .oneof _ => false | _ => true) = true) (fs : List F) : Excl md fs := by
  refine excl_of_no_oneof md (fun fd hfd g hg => ?_) fs
  have hc := List.all_eq_true.mp h fd hfd
  rw [hg] at hc
  cases hc

mutual
def WFs (S : Schema) : MD → List F → Prop
  | fd :: md, f :: fs => WFf S fd f ∧ WFs S md fs
  | [], [] => True
  | _, _ => False
def WFf (S : Schema) (fd : FD) : F → Prop
  | .unset => True
  | .one v =>
    match fd.ty with
    | .sc _ => ShapeOK fd (.one v) ∧ ValOK fd (.one v) ∧ CleanV v
    | .msg i => isRep fd.card = false ∧ ValidTag fd.num ∧ WFv S (S.md i) v
  | .many vs =>
    match fd.ty with
    | .sc _ => ShapeOK fd (.many vs) ∧ ValOK fd (.many vs) ∧ CleanVs vs
    | .msg i => fd.card = .list ∧ ValidTag fd.num ∧ WFvs S (S.md i) vs
def WFv (S : Schema) (md : MD) : V → Prop
  | .msg fs unk => unk = [] ∧ WFs S md fs ∧ (wiresN (recsFields S 0 md fs)).length ≤ maxFieldLen ∧ Excl md fs
  | _ => False
def WFvs (S : Schema) (md : MD) : List V → Prop
  | [] => True
  | v :: vs => WFv S md v ∧ WFvs S md vs
end

theorem wff_sc {S : Schema} {fd : FD} {k : SK} (hty : fd.ty = .sc k) {f : F} (h : WFf S fd f) :
    ShapeOK fd f ∧ ValOK fd f ∧ CleanF f := by
  obtain ⟨_, _, _⟩ := fd; cases hty
  cases f with
  | unset => exact ⟨trivial, trivial, trivial⟩
  | one v => exact h
  | many vs => exact h

theorem recsV_len (S : Schema) (md : MD) (v : V) (h : WFv S md v) : (wiresN (recsV S md v)).length ≤ maxFieldLen :=
  match v, h with
  | .msg _ _, h => h.2.2.1

/-! The state during decoding is `canonFs` of the fields decoded so far. -/

theorem canonFs_nil (S : Schema) (md : MD) : canonFs S md [] = md.map initField := by cases md <;> rfl

theorem length_canonFs (S : Schema) : ∀ (md : MD) (fs : List F), (canonFs S md fs).length = md.length
  | [], [] => rfl
  | [], _ :: _ => rfl
  | _ :: md, [] => by rw [canonFs_nil, List.length_map]
  | _ :: md, _ :: fs => congrArg (· + 1) (length_canonFs S md fs)

/-- `canonFs` field by field; a field the value does not reach is reset -/
theorem canonFs_getElem? (S : Schema) : ∀ (md : MD) (fs : List F) (j : Nat),
    (canonFs S md fs)[j]? = md[j]?.map fun fd => canonF S fd (fs[j]?.getD .unset)
  | [], [], _ => rfl
  | [], _ :: _, _ => rfl
  | _ :: _, [], _ => by rw [canonFs_nil, List.getElem?_map]; rfl
  | _ :: _, _ :: _, 0 => rfl
  | _ :: md, _ :: fs, j + 1 => canonFs_getElem? S md fs j

theorem canonFs_getD_next (S : Schema) {md : MD} {fd : FD} (pre : List F) (h : md[pre.length]? = some fd) :
    (canonFs S md pre).getD pre.length .unset = initField fd := by
  rw [List.getD_eq_getElem?_getD, canonFs_getElem?, h, List.getElem?_eq_none (Nat.le_refl _)]; rfl

theorem canonFs_set_snoc (S : Schema) {fd : FD} (f : F) : ∀ {md : MD} (pre : List F), md[pre.length]? = some fd →
    (canonFs S md pre).set pre.length (canonF S fd f) = canonFs S md (pre ++ [f])
  | [], _, h => by simp at h
  | fd0 :: md, [], h => by
    cases (Option.some.inj h : fd0 = fd)
    show canonF S fd f :: _ = canonF S fd f :: canonFs S md []
    rw [canonFs_nil]
  | _ :: md, _ :: pre, h => congrArg (_ :: ·) (canonFs_set_snoc S f pre h)

theorem initField_oneof (fd : FD) (g : Nat) (h : fd.card = .oneof g) : initField fd = .unset := by
  simp [initField, h]

theorem canonF_unset (S : Schema) (fd : FD) : canonF S fd .unset = initField fd := by simp [canonF]

/-- while the fields are decoded in order, the field being decoded is assigned plainly: if it is a oneof member
    that is set, its siblings are unset in the message (`Excl`), hence hold their reset value `unset` in the
    state, whether already decoded or still to come -/
theorem assignPlain_canon (S : Schema) {md : MD} {fd : FD} {fs pre post : List F} {f : F} (hex : Excl md fs)
    (hfs : fs = pre ++ f :: post)
    (hfd : md[pre.length]? = some fd) (hset : f ≠ .unset) : AssignPlain md fd pre.length (canonFs S md pre) := by
  apply AssignPlain.of_clean _ _ _ _ (length_canonFs S md pre).symm
  intro g hg j fdj hj hgj hne
  have hun : fs[j]? = some .unset :=
    (hex pre.length j fd fdj g hfd hj hg hgj (Ne.symm hne)).resolve_left (by simp [hfs, hset])
  have : pre[j]?.getD .unset = .unset := by
    by_cases hlt : j < pre.length
    · rw [hfs, List.getElem?_append_left hlt] at hun; rw [hun]; rfl
    · rw [List.getElem?_eq_none (by omega)]; rfl
  rw [canonFs_getElem?, hj, Option.map_some, this, canonF_unset, initField_oneof fdj g hgj]

theorem required_canonF {S : Schema} {fd : FD} {f : F} {ops : List EncOp} (ho : opsField S fd f = .ok ops) :
    requiredMissing [fd] [canonF S fd f] = false := by
  by_cases hreq : fd.card = .required
  · obtain ⟨num, ty, card⟩ := fd
    cases hreq
    cases f with
    | unset => exact absurd rfl (opsField_ok_unset ho).1
    | one v => cases ty <;> rfl
    | many vs => cases ty <;> rfl
  · simp [requiredMissing, hreq]

theorem canon_complete_msg (S : Schema) : ∀ (md : MD) (fs : List F) (ops : List EncOp), md.length = fs.length →
    opsFields S md fs = .ok ops → requiredMissing md (canonFs S md fs) = false
  | [], [], _, _, _ => rfl
  | [], _ :: _, _, h, _ => nomatch h
  | _ :: _, [], _, h, _ => nomatch h
  | fd :: md, f :: fs, ops, hl, ho => by
    obtain ⟨a, b, ha, hb, -⟩ := opsFields_ok_cons ho
    rw [canonFs, requiredMissing_cons, required_canonF ha, canon_complete_msg S md fs b (Nat.succ.inj hl) hb]
    rfl

theorem foldN_fieldRecs {S : Schema} {md : MD} {idx : Nat} {fs : List F} (unk : Bytes) {fd : FD} {k : SK}
    (hty : fd.ty = .sc k) {f : F} (hap : AssignPlain md fd idx fs)
    (hlt : idx < fs.length) (hcur : fs.getD idx .unset = initField fd) (hsh : ShapeOK fd f) :
    foldN S md ((fieldRecs idx fd f).map NRec.flat) (fs, unk) = .ok (fs.set idx (canonF S fd f), unk) := by
  rw [canonF_sc S hty, foldN_flat, field_fold md idx fd f fs unk hap hsh hlt hcur]

theorem applyN_one {S : Schema} {md : MD} {idx i : Nat} {sub : List NRec} {cfs fs : List F} (unk : Bytes) {fd : FD}
    (hap : AssignPlain md fd idx fs) (hrep : isRep fd.card = false)
    (hd : decodeMsgN S (S.md i) sub = .ok (cfs, [])) :
    (NRec.msg idx fd i sub).applyN S md (fs, unk) = .ok (fs.set idx (.one (.msg cfs [])), unk) := by
  rw [NRec.applyN_msg, hd]
  show Res.ok (assign md fs idx fd _, unk) = _
  rw [hap.self]
  cases hc : fd.card <;> first | rfl | simp [hc, isRep] at hrep

theorem applyN_list {S : Schema} {md : MD} {idx i num : Nat} {ty : Ty} {sub : List NRec} {cfs fs : List F} {acc : List V}
    (unk : Bytes) (hcur : fs.getD idx .unset = .many acc) (hd : decodeMsgN S (S.md i) sub = .ok (cfs, [])) :
    (NRec.msg idx ⟨num, ty, .list⟩ i sub).applyN S md (fs, unk)
      = .ok (fs.set idx (.many (acc ++ [.msg cfs []])), unk) := by
  rw [NRec.applyN_msg, hd]
  show Res.ok (fs.set idx (appendTo (fs.getD idx .unset) _), unk) = _
  rw [hcur]; rfl

mutual
theorem wfs_clean (S : Schema) : ∀ (md : MD) (fs : List F), WFs S md fs → CleanFs fs
  | [], [], _ => trivial
  | [], _ :: _, h => h.elim
  | _ :: _, [], _ => trivial
  | fd :: md, f :: fs, h => ⟨wff_clean S fd f h.1, wfs_clean S md fs h.2⟩
theorem wff_clean (S : Schema) (fd : FD) : ∀ (f : F), WFf S fd f → CleanF f := fun f h => by
  obtain ⟨num, ty, card⟩ := fd
  cases ty with
  | sc k => exact (wff_sc rfl h).2.2
  | msg i =>
    cases f with
    | unset => trivial
    | one v => exact wfv_clean S (S.md i) v h.2.2
    | many vs => exact wfvs_clean S (S.md i) vs h.2.2
theorem wfv_clean (S : Schema) (md : MD) : ∀ (v : V), WFv S md v → CleanV v
  | .msg fs _, h => ⟨h.1, wfs_clean S md fs h.2.1⟩
  | .num _, _ => trivial
  | .bs _, _ => trivial
theorem wfvs_clean (S : Schema) (md : MD) : ∀ (vs : List V), WFvs S md vs → CleanVs vs
  | [], _ => trivial
  | v :: vs, h => ⟨wfv_clean S md v h.1, wfvs_clean S md vs h.2⟩
end

/-- from the fold of the record tree `Marshal` wrote to `Unmarshal` of its bytes followed by unknown fields -/
theorem roundtrip_of_tree (S : Schema) (fast : Bool) (md : MD) {rs : List NRec} {cfs : List F} {ops : List EncOp}
    (urs : List Rec) (hu : ∀ r ∈ urs, r.OK ∧ findField md r.tag 0 = none) (hbytes : wiresOf ops = wiresN rs)
    (hoks : OKs S md rs) (hfold : foldN S md rs (initFields md, []) = .ok (cfs, []))
    (hreq : requiredMissing md cfs = false) :
    unmarshal S fast md (wiresOf ops ++ Csproto.wiresOf urs) = .ok (cfs, Csproto.wiresOf urs) := by
  have hoks' : OKs S md (rs ++ (urs.map WRec.unknown).map NRec.flat) :=
    (OKs_append ..).mpr ⟨hoks, OKs_flat S _ _ fun w hw => by
      obtain ⟨u, hum, rfl⟩ := List.mem_map.mp hw
      exact hu u hum⟩
  have hb : wiresOf ops ++ Csproto.wiresOf urs = wiresN (rs ++ (urs.map WRec.unknown).map NRec.flat) := by
    rw [wiresN_append, wiresN_flat, wiresW_unknown, hbytes]
  rw [hb, unmarshal_nested S fast _ _ hoks']
  refine decodeMsgN_eq_ok.mpr ⟨?_, hreq⟩
  rw [foldN_append S _ _ _ _ _ hfold, foldN_flat, fold_map_unknown]; rfl

/-- the length bound in `WFv` can be checked on the computed size -/
theorem recs_len_eq_size (S : Schema) (md : MD) (fs : List F) (ops : List EncOp) (hok : OKFields S md fs)
    (hcl : CleanFs fs) (ho : opsFields S md fs = .ok ops) :
    (wiresN (recsFields S 0 md fs)).length = sizeFields S md fs := by
  rw [← ops_recsFields S 0 md fs ops hok hcl ho, (fields_exact S md fs ops hok ho).1]

theorem wfv_intro {S : Schema} {md : MD} {fs : List F} (hwf : WFs S md fs) (hok : OKFields S md fs)
    (ho : ∃ ops, opsFields S md fs = .ok ops) (hs : sizeFields S md fs ≤ maxFieldLen) (hex : Excl md fs) :
    WFv S md (.msg fs []) := by
  obtain ⟨ops, ho⟩ := ho
  exact ⟨rfl, hwf, by rw [recs_len_eq_size S md fs ops hok (wfs_clean S md fs hwf) ho]; exact hs, hex⟩

end Csproto.Gen
