import Csproto.Model.Prov
import Csproto.Proofs.Gen
/-
  Proofs about the provenance model of the generated `Unmarshal` (`Model/Prov.lean`).

  The provenance model makes the same decoder calls in the same order as the value model (`Model/GenDec.lean`).
  `unmarshalP_agrees` walks the four mutually recursive parts once and shows of every call that it `Agree`s with
  the value model's call: reading the references it returns gives the value model's result (errors and panics
  included), the decoder keeps buffer and mode, and in safe mode what is stored is owned.  From it:

  * ERASURE      reading every reference of `unmarshalP`'s result against the input gives exactly the value
                 model's result (`Gen.unmarshal`) — stated as `C10Prov.erasure` (Props/C10Prov.lean), one line from
                 `unmarshalP_agrees`;
  * OWNERSHIP    with a policy that copies at every site in safe mode (the template's), a safe-mode result
                 contains no `alias` at any depth;
  * the structural consequence: an owned value reads the same against any buffer.
-/
namespace Csproto.Prov
open Csproto Csproto.Gen

theorem _root_.Csproto.Res.map_map {α β γ} (f : α → β) (g : β → γ) (r : Res α) :
    (r.map f).map g = r.map (fun x => g (f x)) := by
  cases r <;> rfl

theorem window_sub (buf : Bytes) (base n s l : Nat) (h : s + l ≤ ((buf.drop base).take n).length) :
    (((buf.drop base).take n).drop s).take l = (buf.drop (base + s)).take l := by
  rw [List.drop_take, List.take_take, List.drop_drop, Nat.min_eq_left]
  rw [List.length_take] at h
  exact Nat.le_sub_of_add_le' (Nat.le_trans h (Nat.min_le_left _ _))

def Same (d d' : Dec) : Prop := d'.p = d.p ∧ d'.fast = d.fast

theorem Same.refl (d : Dec) : Same d d := ⟨rfl, rfl⟩
theorem Same.off (d : Dec) (o : Nat) : Same d { d with off := o } := ⟨rfl, rfl⟩
theorem Same.trans {a b c : Dec} (h1 : Same a b) (h2 : Same b c) : Same a c :=
  ⟨h2.1.trans h1.1, h2.2.trans h1.2⟩

theorem scalar_same {α} (d : Dec) (elem : Bytes → Res (α × Nat)) (mk : α → Item) : Same d (d.scalar elem mk).1 := by
  unfold Dec.scalar
  split
  · exact Same.refl d
  · split
    · split <;> first | exact Same.refl d | exact Same.off d _
    · exact Same.refl d

theorem packed_same {α} (d : Dec) (elem : Bytes → Res (α × Nat)) (mk : List α → Item) (pre : Option Nat) :
    Same d (d.packed elem mk pre).1 := by
  unfold Dec.packed
  by_cases h : d.off ≥ d.len
  · rw [if_pos h]; exact Same.refl d
  · rw [if_neg h]
    cases sliceFrom d.p d.off with
    | ok s =>
      dsimp only
      cases elVarint s with
      | ok r =>
        obtain ⟨l, n⟩ := r
        dsimp only
        generalize packedLoop elem d.p l (d.len + 1) 0 (d.off + n) [] = q
        obtain ⟨off2, r⟩ := q
        cases pre with
        | some k =>
          dsimp only
          split
          · exact Same.off d _
          · cases r <;> exact Same.off d _
        | none => cases r <;> exact Same.off d _
      | err => exact Same.refl d
      | panic => exact Same.refl d
    | err => exact Same.refl d
    | panic => exact Same.refl d

theorem tag_cases (d : Dec) :
    (∃ d1 num wt, d.step .tag = (d1, .ok (.tag num wt), 0) ∧ Same d d1) ∨
    d.step .tag = (d, .err, 0) ∨ d.step .tag = (d, .panic, 0) := by
  generalize hr : d.step .tag = r
  change (if d.off ≥ d.len then _ else _) = r at hr
  by_cases h : d.off ≥ d.len
  · rw [if_pos h] at hr; exact .inr (.inl hr.symm)
  · rw [if_neg h] at hr
    generalize sliceFrom d.p d.off = t at hr
    cases t with
    | ok s =>
      dsimp only at hr
      generalize decodeVarint s = v at hr
      cases v with
      | ok x =>
        dsimp only at hr
        split at hr
        · exact .inr (.inl hr.symm)
        · exact .inl ⟨_, _, _, hr.symm, rfl, rfl⟩
      | err => exact .inr (.inl hr.symm)
      | panic => exact .inr (.inr hr.symm)
    | err => exact .inr (.inr hr.symm)
    | panic => exact .inr (.inr hr.symm)

theorem lenPrefix_fits (d : Dec) {s l : Nat} (h : d.lenPrefix = .ok (s, l)) : s + l ≤ d.p.length := by
  unfold Dec.lenPrefix at h
  by_cases h0 : d.off ≥ d.len
  · rw [if_pos h0] at h; cases h
  · rw [if_neg h0] at h
    generalize sliceFrom d.p d.off = r at h
    cases r with
    | ok t =>
      dsimp only at h
      generalize decodeVarint t = v at h
      cases v with
      | ok x =>
        obtain ⟨l', n⟩ := x
        dsimp only at h
        by_cases h1 : n = 0
        · rw [if_pos h1] at h; cases h
        · rw [if_neg h1] at h
          by_cases h2 : l' > maxFieldLen
          · rw [if_pos h2] at h; cases h
          · rw [if_neg h2] at h
            by_cases h3 : d.off + n + l' > d.len
            · rw [if_pos h3] at h; cases h
            · rw [if_neg h3] at h; cases h; exact Nat.le_of_not_gt h3
      | err => cases h
      | panic => cases h
    | err => cases h
    | panic => cases h

/-- a decoder call `w` that reports the window `(s, l)` of `d.p` it returns, against the call `o` that returns the
    bytes: both fail in place in the same way, or lead to the same state, the bytes are what the window holds,
    and the window satisfies `P` -/
def WinOf (P : Dec → Nat → Nat → Prop) (d : Dec) (w : Dec × Res (Nat × Nat)) (o : Dec × DecOut) : Prop :=
  (∃ d' s l, w = (d', .ok (s, l)) ∧ o = (d', .ok (.bytes ((d.p.drop s).take l))) ∧ Same d d' ∧
      s + l ≤ d.p.length ∧ P d' s l) ∨
  (w = (d, .err) ∧ o = (d, .err)) ∨ (w = (d, .panic) ∧ o = (d, .panic))

/-- `Skip` reporting its window, against `Skip` returning the bytes; the window ends at the new cursor -/
theorem skipWin_cases (d : Dec) (tag wt : Nat) :
    WinOf (fun d' s l => d'.off = s + l ∧ s ≤ d.off ∧ d.off ≤ d'.off) d (d.skipWin tag wt) (d.skip tag wt) := by
  unfold Dec.skipWin Dec.skip
  by_cases h : d.off ≥ d.len
  · rw [if_pos h, if_pos h]; exact .inr (.inl ⟨rfl, rfl⟩)
  · rw [if_neg h, if_neg h]
    dsimp only
    generalize hb : (if d.ke = d.off ∧ d.ke > d.ks then d.ks else d.off - sizeOfTagKey tag) = bof
    have hbof : bof ≤ d.off := by
      rw [← hb]; split
      · next hc => exact Nat.le_of_lt (hc.1 ▸ hc.2)
      · exact Nat.sub_le _ _
    cases d.skipCheck tag wt bof (sizeOfTagKey tag) with
    | ok u =>
      cases d.skipLen wt with
      | ok k =>
        dsimp only
        by_cases hk : d.off + k > d.len
        · rw [if_pos hk, if_pos hk]; exact .inr (.inl ⟨rfl, rfl⟩)
        · rw [if_neg hk, if_neg hk]
          have hend : bof + (d.off + k - bof) = d.off + k :=
            Nat.add_sub_cancel' (Nat.le_trans hbof (Nat.le_add_right _ _))
          exact .inl ⟨_, bof, _, rfl, rfl, Same.off d _, Nat.le_trans (Nat.le_of_eq hend) (Nat.le_of_not_gt hk),
            hend.symm, hbof, Nat.le_add_right _ _⟩
      | err => exact .inr (.inl ⟨rfl, rfl⟩)
      | panic => exact .inr (.inr ⟨rfl, rfl⟩)
    | err => exact .inr (.inl ⟨rfl, rfl⟩)
    | panic => exact .inr (.inr ⟨rfl, rfl⟩)

theorem skipWin_off (d : Dec) (tag wt : Nat) (d' : Dec) (s l : Nat) (h : d.skipWin tag wt = (d', .ok (s, l))) :
    d'.off = s + l ∧ s ≤ d.off ∧ d.off ≤ d'.off := by
  rcases skipWin_cases d tag wt with ⟨_, _, _, hw, _, _, _, hP⟩ | ⟨hw, _⟩ | ⟨hw, _⟩
  · cases hw.symm.trans h; exact hP
  · cases hw.symm.trans h
  · cases hw.symm.trans h

/-- `DecodeBytes`, likewise -/
theorem bytesWin_cases (d : Dec) : WinOf (fun _ _ _ => True) d d.bytesWin d.bytesOp := by
  unfold Dec.bytesWin Dec.bytesOp
  cases h : d.lenPrefix with
  | ok r => exact .inl ⟨_, r.1, r.2, rfl, rfl, Same.off d _, lenPrefix_fits d h, trivial⟩
  | err => exact .inr (.inl ⟨rfl, rfl⟩)
  | panic => exact .inr (.inr ⟨rfl, rfl⟩)

theorem bytesOp_same (d : Dec) : Same d d.bytesOp.1 := by
  rcases bytesWin_cases d with ⟨d', s, l, _, ho, hs, _⟩ | ⟨_, ho⟩ | ⟨_, ho⟩
  · rw [ho]
    exact hs
  · rw [ho]
    exact Same.refl d
  · rw [ho]
    exact Same.refl d

theorem string_same (d : Dec) : Same d (d.step .string).1 := by
  dsimp only [Dec.step]
  split
  · exact Same.refl d
  · have hb := bytesOp_same d
    split
    · next h =>
      rw [h] at hb
      exact hb
    · next h =>
      rw [h] at hb
      exact hb

/-- no element decoder call changes the buffer or the mode -/
theorem decOp_same (k : SK) (d : Dec) : Same d (d.step (decOpOf k)).1 := by
  cases k
  case string => exact string_same d
  case bytes => exact bytesOp_same d
  all_goals
    dsimp only [decOpOf, Dec.step, withAlloc]
    exact scalar_same d _ _

/-- nor does the packed reader of a numeric kind -/
theorem packedOp_same (k : SK) (pop : DecOp) (h : packedDecOpOf k = some pop) (d : Dec) : Same d (d.step pop).1 := by
  cases k
  case string | bytes => cases h
  all_goals
    cases h
    dsimp only [Dec.step]
    exact packed_same d _ _ _

/-- a call that hands back the decoder state its decoder call `op` left -/
theorem stepRes_same {α} {d : Dec} {op : DecOp} {f : Item → α} {d' : Dec} {a : α} (hs : Same d (d.step op).1)
    (h : (match d.step op with
          | (d', .ok it, _) => Res.ok (d', f it)
          | (_, .panic, _) => .panic
          | _ => .err) = .ok (d', a)) : Same d d' := by
  generalize d.step op = r at h hs
  obtain ⟨d1, o, n⟩ := r
  cases o <;> cases h
  exact hs

theorem readScalar_same {k : SK} {d : Dec} {wt : Nat} {d' : Dec} {v : V}
    (h : readScalar k d wt = .ok (d', v)) : Same d d' := by
  unfold readScalar at h
  split at h
  · cases h
  · exact stepRes_same (decOp_same k d) h

theorem readRepeated_same {k : SK} {d : Dec} {wt : Nat} {d' : Dec} {vs : List V}
    (h : readRepeated k d wt = .ok (d', vs)) : Same d d' := by
  unfold readRepeated at h
  have one : ((readScalar k d wt).map fun (x : Dec × V) => (x.1, [x.2])) = .ok (d', vs) → Same d d' := fun h => by
    obtain ⟨x, hx, he⟩ := Res.map_eq_ok.mp h
    cases he
    exact readScalar_same hx
  split at h
  · exact one h
  · next pop hk =>
    split at h
    · exact one h
    · split at h
      · exact stepRes_same (packedOp_same k pop hk d) h
      · cases h

/-- the decoder's `p` is the window `[base, base+n)` of `buf` -/
def Sync (buf : Bytes) (base : Nat) (d : Dec) : Prop := ∃ n, d.p = (buf.drop base).take n

theorem Sync.same {buf : Bytes} {base : Nat} {d d' : Dec} (h : Sync buf base d) (hs : Same d d') : Sync buf base d' := by
  obtain ⟨n, hn⟩ := h; exact ⟨n, hs.1.trans hn⟩

theorem Sync.window {buf : Bytes} {base : Nat} {d : Dec} (h : Sync buf base d) {s l : Nat} (hfit : s + l ≤ d.p.length) :
    (d.p.drop s).take l = (buf.drop (base + s)).take l := by
  obtain ⟨n, hn⟩ := h
  rw [hn] at hfit ⊢
  exact window_sub buf base n s l hfit

/-- the reference to the window a decoder call reports -/
def refOf (base : Nat) : Dec × Res (Nat × Nat) → Res (Dec × Ref)
  | (d', .ok w) => .ok (d', winRef base w)
  | (_, .err) => .err
  | (_, .panic) => .panic

/-- … reads, against `buf`, the bytes the value model's call returns -/
theorem WinOf.ref_cases {P : Dec → Nat → Nat → Prop} {buf : Bytes} {base : Nat} {d : Dec} {w : Dec × Res (Nat × Nat)}
    {o : Dec × DecOut} (h : WinOf P d w o) (hs : Sync buf base d) :
    (∃ d' r, refOf base w = .ok (d', r) ∧ o = (d', .ok (.bytes (r.read buf))) ∧ Same d d') ∨
    (refOf base w = .err ∧ o = (d, .err)) ∨ (refOf base w = .panic ∧ o = (d, .panic)) := by
  rcases h with ⟨d', s, l, rfl, rfl, hsame, hfit, _⟩ | ⟨rfl, rfl⟩ | ⟨rfl, rfl⟩
  · exact .inl ⟨d', _, rfl, by rw [hs.window hfit]; rfl, hsame⟩
  · exact .inr (.inl ⟨rfl, rfl⟩)
  · exact .inr (.inr ⟨rfl, rfl⟩)

theorem Dec.step_skip (d : Dec) (tag wt : Nat) : d.step (.skip tag wt) = withAlloc (d.skip tag wt) 0 := rfl

theorem skipP_cases {buf : Bytes} {base : Nat} (d : Dec) (tag wt : Nat) (hs : Sync buf base d) :
    (∃ d' r, skipP base d tag wt = .ok (d', r) ∧ d.skip tag wt = (d', .ok (.bytes (r.read buf))) ∧ Same d d') ∨
    (skipP base d tag wt = .err ∧ d.skip tag wt = (d, .err)) ∨
    (skipP base d tag wt = .panic ∧ d.skip tag wt = (d, .panic)) :=
  (skipWin_cases d tag wt).ref_cases hs

theorem decodeBytesP_cases {buf : Bytes} {base : Nat} (d : Dec) (hs : Sync buf base d) :
    (∃ d' r, decodeBytesP base d = .ok (d', r) ∧ d.bytesOp = (d', .ok (.bytes (r.read buf))) ∧ Same d d') ∨
    (decodeBytesP base d = .err ∧ d.bytesOp = (d, .err)) ∨
    (decodeBytesP base d = .panic ∧ d.bytesOp = (d, .panic)) :=
  (bytesWin_cases d).ref_cases hs

theorem read_store (c : Bool) (buf : Bytes) (r : Ref) : (store c buf r).read buf = r.read buf := by
  cases c <;> rfl

theorem read_copy (buf : Bytes) (r : Ref) : (r.copy buf).read buf = r.read buf := rfl

theorem readAll_nil (buf : Bytes) : readAll buf [] = [] := rfl
theorem readAll_snoc (buf : Bytes) (rs : List Ref) (r : Ref) : readAll buf (rs ++ [r]) = readAll buf rs ++ r.read buf := by
  simp [readAll]

theorem eraseFs_eq_map (buf : Bytes) (fs : List PF) : eraseFs buf fs = fs.map (PF.erase buf) := by
  induction fs with
  | nil => rfl
  | cons f fs ih => exact congrArg (f.erase buf :: ·) ih

theorem eraseVs_eq_map (buf : Bytes) (vs : List PV) : eraseVs buf vs = vs.map (PV.erase buf) := by
  induction vs with
  | nil => rfl
  | cons v vs ih => exact congrArg (v.erase buf :: ·) ih

mutual
theorem erase_toPV (buf : Bytes) : ∀ v : V, (toPV v).erase buf = v
  | .num _ => rfl
  | .bs _ => rfl
  | .msg fs unk => by
    rw [toPV, PV.erase, erase_toPFs buf fs]
    exact congrArg (V.msg fs) (List.append_nil unk)
theorem erase_toPF (buf : Bytes) : ∀ f : F, (toPF f).erase buf = f
  | .unset => rfl
  | .one v => congrArg F.one (erase_toPV buf v)
  | .many vs => congrArg F.many (erase_toPVs buf vs)
theorem erase_toPFs (buf : Bytes) : ∀ fs : List F, eraseFs buf (toPFs fs) = fs
  | [] => rfl
  | f :: fs => by rw [toPFs, eraseFs, erase_toPF buf f, erase_toPFs buf fs]
theorem erase_toPVs (buf : Bytes) : ∀ vs : List V, eraseVs buf (toPVs vs) = vs
  | [] => rfl
  | v :: vs => by rw [toPVs, eraseVs, erase_toPV buf v, erase_toPVs buf vs]
end

theorem erase_getD (buf : Bytes) (fs : List PF) (idx : Nat) :
    (eraseFs buf fs).getD idx .unset = (fs.getD idx .unset).erase buf := by
  rw [eraseFs_eq_map, List.getD_eq_getElem?_getD, List.getD_eq_getElem?_getD, List.getElem?_map]
  cases fs[idx]? <;> rfl

theorem erase_set (buf : Bytes) (fs : List PF) (idx : Nat) (f : PF) :
    eraseFs buf (fs.set idx f) = (eraseFs buf fs).set idx (f.erase buf) := by
  simp only [eraseFs_eq_map, List.map_set]

theorem erase_assign (buf : Bytes) (md : MD) (fs : List PF) (idx : Nat) (fd : FD) (f : PF) :
    eraseFs buf (assignP md fs idx fd f) = assign md (eraseFs buf fs) idx fd (f.erase buf) := by
  unfold assignP assign
  rw [erase_set]
  cases fd.card with
  | oneof g =>
    dsimp only
    rw [eraseFs_eq_map, eraseFs_eq_map, List.zip_map_right, List.map_map, List.map_map]
    refine congrArg (List.set · idx _) (List.map_congr_left fun p _ => ?_)
    dsimp only [Function.comp, Prod.map, id]
    split <;> rfl
  | _ => rfl

theorem isUnset_erase (buf : Bytes) (f : PF) :
    (match f.erase buf with | .unset => true | _ => false) = f.isUnset := by
  cases f <;> rfl

theorem erase_requiredMissing (buf : Bytes) (md : MD) (fs : List PF) :
    requiredMissing md (eraseFs buf fs) = requiredMissingP md fs := by
  unfold requiredMissing requiredMissingP
  simp only [eraseFs_eq_map, List.zip_map_right, List.any_map]
  congr 1
  funext p
  exact congrArg (_ && ·) (isUnset_erase buf p.2)

theorem erase_entryKey (buf : Bytes) (v : PV) : entryKey (v.erase buf) = (entryKeyP v).erase buf := by
  rcases v with _ | _ | ⟨_ | ⟨_ | _ | _, _⟩, _⟩ <;> rfl

theorem erase_keyEq (buf : Bytes) (a b : PV) : keyEq (a.erase buf) (b.erase buf) = keyEqP buf a b := by
  cases a <;> cases b <;> rfl

theorem erase_mapInsert (buf : Bytes) (e : PV) (es : List PV) :
    eraseVs buf (mapInsertP buf e es) = mapInsert (e.erase buf) (eraseVs buf es) := by
  induction es with
  | nil => simp [mapInsertP, mapInsert, eraseVs]
  | cons x xs ih =>
    simp only [mapInsertP, mapInsert, eraseVs, erase_entryKey, erase_keyEq]
    split
    · simp [eraseVs]
    · simp [eraseVs, ih]

theorem erase_append (buf : Bytes) (a b : List PV) : eraseVs buf (a ++ b) = eraseVs buf a ++ eraseVs buf b := by
  simp [eraseVs_eq_map]

theorem erase_appendTo (buf : Bytes) (cur : PF) (vs : List PV) :
    (appendToP cur vs).erase buf = appendTo (cur.erase buf) (eraseVs buf vs) := by
  cases cur <;> first | rfl | exact congrArg F.many (erase_append ..)

theorem erase_initFields (buf : Bytes) (md : MD) : eraseFs buf (initFieldsP md) = initFields md :=
  erase_toPFs buf _

theorem erase_fixEntry (buf : Bytes) (S : Schema) (emd : MD) (efs : List PF) :
    eraseFs buf (fixEntryP S emd efs) =
      (emd.zip (eraseFs buf efs)).map fun (p : FD × F) =>
        match p.1.ty, p.2 with
        | .msg j, .unset => F.one (.msg (initFields (S.md j)) [])
        | _, ef => ef := by
  unfold fixEntryP
  simp only [eraseFs_eq_map, List.zip_map_right, List.map_map]
  apply List.map_congr_left
  intro p _
  obtain ⟨fd, f⟩ := p
  simp only [Function.comp, Prod.map, id]
  cases fd.ty with
  | sc k => rfl
  | msg j =>
    cases f with
    | unset => simp [PF.erase, PV.erase, erase_initFields, readAll]
    | one v => simp [PF.erase]
    | many vs => simp [PF.erase]

theorem ownedFs_iff (fs : List PF) : ownedFs fs = true ↔ ∀ f ∈ fs, f.owned = true := by
  induction fs with
  | nil => exact ⟨nofun, fun _ => rfl⟩
  | cons f fs ih => rw [List.forall_mem_cons, ← ih]; exact Bool.and_eq_true_iff

theorem ownedVs_iff (vs : List PV) : ownedVs vs = true ↔ ∀ v ∈ vs, v.owned = true := by
  induction vs with
  | nil => exact ⟨nofun, fun _ => rfl⟩
  | cons v vs ih => rw [List.forall_mem_cons, ← ih]; exact Bool.and_eq_true_iff

mutual
theorem owned_toPV : ∀ v : V, (toPV v).owned = true
  | .num _ => rfl
  | .bs _ => rfl
  | .msg fs _ => by rw [toPV, PV.owned, owned_toPFs fs]; rfl
theorem owned_toPF : ∀ f : F, (toPF f).owned = true
  | .unset => rfl
  | .one v => owned_toPV v
  | .many vs => owned_toPVs vs
theorem owned_toPFs : ∀ fs : List F, ownedFs (toPFs fs) = true
  | [] => rfl
  | f :: fs => by rw [toPFs, ownedFs, owned_toPF f, owned_toPFs fs]; rfl
theorem owned_toPVs : ∀ vs : List V, ownedVs (toPVs vs) = true
  | [] => rfl
  | v :: vs => by rw [toPVs, ownedVs, owned_toPV v, owned_toPVs vs]; rfl
end

theorem owned_store_true (buf : Bytes) (r : Ref) : (store true buf r).isOwned = true := rfl

theorem owned_getD {fs : List PF} (h : ownedFs fs = true) (idx : Nat) : (fs.getD idx .unset).owned = true := by
  rw [List.getD_eq_getElem?_getD]
  cases hi : fs[idx]? with
  | none => rfl
  | some f => exact (ownedFs_iff fs).mp h f (List.mem_of_getElem? hi)

theorem owned_set {fs : List PF} (h : ownedFs fs = true) (idx : Nat) {f : PF} (hf : f.owned = true) :
    ownedFs (fs.set idx f) = true := by
  rw [ownedFs_iff] at h ⊢
  intro x hx
  rcases List.mem_or_eq_of_mem_set hx with hx | hx
  · exact h x hx
  · rw [hx]; exact hf

theorem owned_assign (md : MD) {fs : List PF} (h : ownedFs fs = true) (idx : Nat) (fd : FD) {f : PF} (hf : f.owned = true) :
    ownedFs (assignP md fs idx fd f) = true := by
  unfold assignP
  apply owned_set _ idx hf
  cases fd.card with
  | oneof g =>
    simp only []
    rw [ownedFs_iff] at h ⊢
    intro x hx
    obtain ⟨p, hp, rfl⟩ := List.mem_map.mp hx
    split
    · rfl
    · exact h p.2 (List.of_mem_zip hp).2
  | _ => exact h

theorem owned_append {a b : List PV} (ha : ownedVs a = true) (hb : ownedVs b = true) : ownedVs (a ++ b) = true :=
  (ownedVs_iff _).2 fun x hx => (List.mem_append.1 hx).elim ((ownedVs_iff a).1 ha x) ((ownedVs_iff b).1 hb x)

theorem owned_appendTo {cur : PF} (hc : cur.owned = true) {vs : List PV} (hv : ownedVs vs = true) :
    (appendToP cur vs).owned = true := by
  cases cur with
  | many old => exact owned_append hc hv
  | _ => exact hv

theorem owned_mapInsert (buf : Bytes) {e : PV} (he : e.owned = true) {es : List PV} (hes : ownedVs es = true) :
    ownedVs (mapInsertP buf e es) = true := by
  induction es with
  | nil => simp [mapInsertP, ownedVs, he]
  | cons x xs ih =>
    simp only [ownedVs, Bool.and_eq_true] at hes
    simp only [mapInsertP]
    split
    · simp [ownedVs, he, hes.2]
    · simp [ownedVs, hes.1, ih hes.2]

theorem owned_initFields (md : MD) : ownedFs (initFieldsP md) = true := owned_toPFs _

theorem owned_fixEntry (S : Schema) (emd : MD) {efs : List PF} (h : ownedFs efs = true) :
    ownedFs (fixEntryP S emd efs) = true := by
  unfold fixEntryP
  rw [ownedFs_iff] at h ⊢
  intro x hx
  obtain ⟨p, hp, rfl⟩ := List.mem_map.mp hx
  have hp2 := h p.2 (List.of_mem_zip hp).2
  split
  · simp [PF.owned, PV.owned, owned_initFields]
  · exact hp2

theorem PMsg.owned_iff {fs : List PF} {unk : List Ref} :
    PMsg.owned (fs, unk) = true ↔ ownedFs fs = true ∧ unk.all Ref.isOwned = true := Bool.and_eq_true_iff

theorem read_owned (buf buf' : Bytes) : ∀ r : Ref, r.isOwned = true → r.read buf' = r.read buf
  | .owned _, _ => rfl

theorem readAll_owned (buf buf' : Bytes) (rs : List Ref) (h : rs.all Ref.isOwned = true) :
    readAll buf' rs = readAll buf rs :=
  congrArg List.flatten (List.map_congr_left fun r hr => read_owned buf buf' r (List.all_eq_true.mp h r hr))

mutual
/-- an owned value reads the same whatever the caller's buffer holds -/
theorem erase_owned_PV (buf buf' : Bytes) : ∀ v : PV, v.owned = true → v.erase buf' = v.erase buf
  | .num n, _ => rfl
  | .bs r, h => congrArg V.bs (read_owned buf buf' r h)
  | .msg fs unk, h => by
    rw [PV.owned, Bool.and_eq_true] at h
    rw [PV.erase, PV.erase, erase_owned_Fs buf buf' fs h.1, readAll_owned buf buf' unk h.2]
theorem erase_owned_PF (buf buf' : Bytes) : ∀ f : PF, f.owned = true → f.erase buf' = f.erase buf
  | .unset, _ => rfl
  | .one v, h => congrArg F.one (erase_owned_PV buf buf' v h)
  | .many vs, h => congrArg F.many (erase_owned_Vs buf buf' vs h)
theorem erase_owned_Fs (buf buf' : Bytes) : ∀ fs : List PF, ownedFs fs = true → eraseFs buf' fs = eraseFs buf fs
  | [], _ => rfl
  | f :: fs, h => by
    rw [ownedFs, Bool.and_eq_true] at h
    rw [eraseFs, eraseFs, erase_owned_PF buf buf' f h.1, erase_owned_Fs buf buf' fs h.2]
theorem erase_owned_Vs (buf buf' : Bytes) : ∀ vs : List PV, ownedVs vs = true → eraseVs buf' vs = eraseVs buf vs
  | [], _ => rfl
  | v :: vs, h => by
    rw [ownedVs, Bool.and_eq_true] at h
    rw [eraseVs, eraseVs, erase_owned_PV buf buf' v h.1, erase_owned_Vs buf buf' vs h.2]
end

theorem erase_owned_msg (buf buf' : Bytes) (m : PMsg) (h : m.owned = true) : m.erase buf' = m.erase buf := by
  rw [PMsg.erase, PMsg.erase, erase_owned_Fs buf buf' m.1 (PMsg.owned_iff.1 h).1,
    readAll_owned buf buf' m.2 (PMsg.owned_iff.1 h).2]

/-- `d` is a (sub-)decoder of a run in mode `fast` that reads a window of `buf` starting at `base` -/
structure On (buf : Bytes) (base : Nat) (fast : Bool) (d : Dec) : Prop where
  sync : Sync buf base d
  mode : d.fast = fast

theorem On.same {buf : Bytes} {base : Nat} {fast : Bool} {d d' : Dec} (h : On buf base fast d) (hs : Same d d') :
    On buf base fast d' := ⟨h.sync.same hs, hs.2.trans h.mode⟩

theorem On.new (buf : Bytes) (base len : Nat) (fast : Bool) :
    On buf base fast { p := (buf.drop base).take len, off := 0, fast := fast } := ⟨⟨len, rfl⟩, rfl⟩

/-- safe mode, under a copy discipline that copies at every site in safe mode -/
def Safe (pol : Policy) (fast : Bool) : Prop := fast = false ∧ ∀ site, pol site false = true

theorem owned_store {pol : Policy} {fast : Bool} (h : Safe pol fast) {d : Dec} (hd : d.fast = fast) (site : Site)
    (buf : Bytes) (r : Ref) : (store (pol site d.fast) buf r).isOwned = true := by
  rw [hd, h.1, h.2]; rfl

/-- what is asked of a call that moves decoder `d` and returns `x.2`: buffer and mode are left alone, and in safe mode
    what it returns is owned -/
def Kept (pol : Policy) (fast : Bool) (d : Dec) {α} (own : α → Bool) (x : Dec × α) : Prop :=
  Same d x.1 ∧ (Safe pol fast → own x.2 = true)

/-- reading the references of what such a call returns -/
def eraseWith {α β} (er : α → β) (x : Dec × α) : Dec × β := (x.1, er x.2)

/-- how a call `rp` of the provenance model relates to the call `rv` of the value model it mirrors: reading the
    references (`er`) gives `rv`, errors and panics included, and a result is `good` -/
def Agree {α β} (er : α → β) (good : α → Prop) (rp : Res α) (rv : Res β) : Prop :=
  rp.map er = rv ∧ ∀ a, rp = .ok a → good a

theorem Agree.ok {α β} {er : α → β} {good : α → Prop} {a : α} {b : β} (he : er a = b) (hg : good a) :
    Agree er good (.ok a) (.ok b) := ⟨congrArg Res.ok he, fun _ h => by cases h; exact hg⟩

theorem Agree.err {α β} {er : α → β} {good : α → Prop} : Agree er good .err .err := ⟨rfl, nofun⟩

theorem Agree.panic {α β} {er : α → β} {good : α → Prop} : Agree er good .panic .panic := ⟨rfl, nofun⟩

/-- the outcomes of two calls that agree, in the form of `tag_cases` -/
theorem Agree.cases {α β} {er : α → β} {good : α → Prop} {rp : Res α} {rv : Res β} (h : Agree er good rp rv) :
    (∃ a, rp = .ok a ∧ rv = .ok (er a) ∧ good a) ∨ (rp = .err ∧ rv = .err) ∨ (rp = .panic ∧ rv = .panic) := by
  obtain ⟨rfl, hg⟩ := h
  cases rp with
  | ok a => exact .inl ⟨a, rfl, rfl, hg a rfl⟩
  | err => exact .inr (.inl ⟨rfl, rfl⟩)
  | panic => exact .inr (.inr ⟨rfl, rfl⟩)

theorem Agree.map {α β α' β'} {er : α → β} {good : α → Prop} {rp : Res α} {rv : Res β} (h : Agree er good rp rv)
    {er' : α' → β'} {good' : α' → Prop} {fp : α → α'} {fv : β → β'} (he : ∀ a, er' (fp a) = fv (er a))
    (hg : ∀ a, good a → good' (fp a)) : Agree er' good' (rp.map fp) (rv.map fv) := by
  obtain ⟨rfl, h2⟩ := h
  cases rp with
  | ok a => exact .ok (he a) (hg a (h2 a rfl))
  | err => exact .err
  | panic => exact .panic

/-- a provenance call that only wraps the value call's result -/
theorem Agree.of_map {α β} {er : α → β} {good : α → Prop} {rv : Res β} {f : β → α} (he : ∀ b, er (f b) = b)
    (hg : ∀ b, rv = .ok b → good (f b)) : Agree er good (rv.map f) rv := by
  cases rv with
  | ok b => exact .ok (he b) (hg b rfl)
  | err => exact .err
  | panic => exact .panic

/-- one scalar element: a number is the value model's own, a string or bytes value reads what `DecodeBytes` returned,
    and in safe mode it is a copy -/
theorem agree_readScalar (pol : Policy) {buf : Bytes} {base : Nat} {fast : Bool} {d : Dec} (site : Site) (k : SK)
    (wt : Nat) (hon : On buf base fast d) :
    Agree (eraseWith (PV.erase buf)) (Kept pol fast d PV.owned)
      (readScalarP pol buf base site k d wt) (readScalar k d wt) := by
  have number : Agree (eraseWith (PV.erase buf)) (Kept pol fast d PV.owned)
      ((readScalar k d wt).map fun x => (x.1, toPV x.2)) (readScalar k d wt) :=
    .of_map (fun x => congrArg (x.1, ·) (erase_toPV buf x.2)) (fun x hx => ⟨readScalar_same hx, fun _ => owned_toPV _⟩)
  cases k
  case string =>
    dsimp only [readScalarP, readScalar]
    by_cases hw : wt ≠ wtLen
    · rw [if_pos hw, if_pos (show wt ≠ wtOf .string from hw)]; exact .err
    · rw [if_neg hw, if_neg (show ¬ wt ≠ wtOf .string from hw)]
      dsimp only [decOpOf, Dec.step, decodeStringP]
      by_cases hoff : d.off ≥ d.len
      · rw [if_pos hoff, if_pos hoff]; exact .err
      · rw [if_neg hoff, if_neg hoff]
        rcases decodeBytesP_cases d hon.sync with ⟨d', r, hp, ho, hsame⟩ | ⟨hp, ho⟩ | ⟨hp, ho⟩ <;> rw [hp, ho]
        · refine .ok (congrArg (fun b => (d', V.bs b)) ?_) ⟨hsame, fun hsafe => ?_⟩
          · cases d.fast <;> rfl
          · rw [hon.mode, hsafe.1]; rfl
        · exact .err
        · exact .panic
  case bytes =>
    dsimp only [readScalarP, readScalar]
    by_cases hw : wt ≠ wtLen
    · rw [if_pos hw, if_pos (show wt ≠ wtOf .bytes from hw)]; exact .err
    · rw [if_neg hw, if_neg (show ¬ wt ≠ wtOf .bytes from hw)]
      dsimp only [decOpOf, Dec.step, withAlloc]
      rcases decodeBytesP_cases d hon.sync with ⟨d', r, hp, ho, hsame⟩ | ⟨hp, ho⟩ | ⟨hp, ho⟩ <;> rw [hp, ho]
      · refine .ok (congrArg (fun b => (d', V.bs b)) (read_store ..)) ⟨hsame, fun hsafe => ?_⟩
        rw [hon.mode, hsafe.1, hsafe.2]; rfl
      · exact .err
      · exact .panic
  all_goals exact number

theorem agree_readRepeated (pol : Policy) {buf : Bytes} {base : Nat} {fast : Bool} {d : Dec} (site : Site) (k : SK)
    (wt : Nat) (hon : On buf base fast d) :
    Agree (eraseWith (eraseVs buf)) (Kept pol fast d ownedVs)
      (readRepeatedP pol buf base site k d wt) (readRepeated k d wt) := by
  have numbers : Agree (eraseWith (eraseVs buf)) (Kept pol fast d ownedVs)
      ((readRepeated k d wt).map fun x => (x.1, toPVs x.2)) (readRepeated k d wt) :=
    .of_map (fun x => congrArg (x.1, ·) (erase_toPVs buf x.2)) (fun x hx => ⟨readRepeated_same hx, fun _ => owned_toPVs _⟩)
  cases k
  case string | bytes =>
    exact (agree_readScalar pol site _ wt hon).map (fun _ => rfl)
      fun x hx => ⟨hx.1, fun hsafe => by rw [ownedVs, ownedVs, hx.2 hsafe]; rfl⟩
  all_goals exact numbers

section run
variable (S : Schema) (pol : Policy) (fast : Bool) (buf : Bytes)

/-! The provenance run against the value run, for one value of the fuel: reading the references of what a part of the
    provenance model computes gives what that part of the value model computes, and in safe mode (with a discipline
    that copies at every site) nothing it stores is a window.  One statement for each of the four mutually recursive
    parts. -/

def MsgAgrees (fuel : Nat) : Prop := ∀ md base len,
  Agree (PMsg.erase buf) (fun m => Safe pol fast → m.owned = true)
    (unmarshalMsgP S pol fast buf fuel md base len) (unmarshalMsg S fast fuel md ((buf.drop base).take len))

def LoopAgrees (fuel : Nat) : Prop := ∀ md base d fs unk vfs vunk, On buf base fast d →
  (Safe pol fast → ownedFs fs = true) → (Safe pol fast → unk.all Ref.isOwned = true) →
  eraseFs buf fs = vfs → readAll buf unk = vunk →
  Agree (PMsg.erase buf) (fun m => Safe pol fast → m.owned = true)
    (unmarshalLoopP S pol fast buf fuel md base d fs unk) (unmarshalLoop S fast fuel md d vfs vunk)

def FieldAgrees (fuel : Nat) : Prop := ∀ fd wt base d cur, On buf base fast d → (Safe pol fast → cur.owned = true) →
  Agree (eraseWith (PF.erase buf)) (Kept pol fast d PF.owned)
    (fieldStepP S pol fast buf fuel fd wt base d cur) (fieldStep S fast fuel fd wt d (cur.erase buf))

def EntryAgrees (fuel : Nat) : Prop := ∀ emd base d efs vfs, On buf base fast d → (Safe pol fast → ownedFs efs = true) →
  eraseFs buf efs = vfs →
  Agree (eraseFs buf) (fun r => Safe pol fast → ownedFs r = true)
    (entryLoopP S pol fast buf fuel emd base d efs) (entryLoop S fast fuel emd d vfs)

variable {S pol fast buf} {fuel : Nat}

theorem msgAgrees_succ (ihL : LoopAgrees S pol fast buf fuel) : MsgAgrees S pol fast buf (fuel + 1) := by
  intro md base len
  rw [unmarshalMsgP, unmarshalMsg]
  by_cases hc : (!hasRequired md && ((buf.drop base).take len).isEmpty) = true
  · rw [if_pos hc, if_pos hc]
    exact .ok (congrArg (·, []) (erase_initFields buf md)) fun _ => PMsg.owned_iff.2 ⟨owned_initFields md, rfl⟩
  · rw [if_neg hc, if_neg hc]
    rcases (ihL md base _ (initFieldsP md) [] _ [] (On.new buf base len fast)
      (fun _ => owned_initFields md) (fun _ => rfl) (erase_initFields buf md) rfl).cases with
      ⟨m, hp, hv, hm⟩ | ⟨hp, hv⟩ | ⟨hp, hv⟩ <;> rw [hp, hv]
    · dsimp only [PMsg.erase]
      rw [erase_requiredMissing]
      cases requiredMissingP md m.1
      · exact .ok rfl hm
      · exact .err
    · exact .err
    · exact .panic

theorem loopAgrees_succ (ihL : LoopAgrees S pol fast buf fuel) (ihF : FieldAgrees S pol fast buf fuel) :
    LoopAgrees S pol fast buf (fuel + 1) := by
  intro md base d fs unk vfs vunk hon hfs hunk hvfs hvunk
  subst hvfs hvunk
  rw [unmarshalLoopP, unmarshalLoop]
  by_cases hc : ¬ d.off < d.len
  · rw [if_pos hc, if_pos hc]; exact .ok rfl fun h => PMsg.owned_iff.2 ⟨hfs h, hunk h⟩
  · rw [if_neg hc, if_neg hc]
    rcases tag_cases d with ⟨d1, num, wt, ht, hs1⟩ | ht | ht <;> rw [ht]
    · have hon1 := hon.same hs1
      dsimp only
      cases findField md num 0 with
      | some r =>
        dsimp only
        rw [erase_getD]
        rcases (ihF r.2 wt base d1 (fs.getD r.1 .unset) hon1 fun h => owned_getD (hfs h) r.1).cases with
          ⟨x, hp, hv, hsame, hfo⟩ | ⟨hp, hv⟩ | ⟨hp, hv⟩ <;> rw [hp, hv]
        · exact ihL md base x.1 _ unk _ _ (hon1.same hsame) (fun h => owned_assign md (hfs h) r.1 r.2 (hfo h)) hunk
            (erase_assign ..) rfl
        · exact .err
        · exact .panic
      | none =>
        dsimp only
        rcases skipP_cases d1 num wt hon1.sync with ⟨d2, r, hp, hv, hsame⟩ | ⟨hp, hv⟩ | ⟨hp, hv⟩ <;>
          rw [Dec.step_skip, hp, hv]
        · exact ihL md base d2 fs _ _ _ (hon1.same hsame) hfs
            (fun h => by rw [List.all_append, hunk h, List.all_cons, owned_store h hon1.mode]; rfl) rfl
            (by rw [readAll_snoc, read_store])
        · exact .err
        · exact .panic
    · exact .err
    · exact .panic

theorem entryAgrees_succ (ihE : EntryAgrees S pol fast buf fuel) (ihF : FieldAgrees S pol fast buf fuel) :
    EntryAgrees S pol fast buf (fuel + 1) := by
  intro emd base d efs vfs hon hown hfs
  subst hfs
  rw [entryLoopP, entryLoop]
  by_cases hc : ¬ d.off < d.len
  · rw [if_pos hc, if_pos hc]; exact .ok rfl hown
  · rw [if_neg hc, if_neg hc]
    rcases tag_cases d with ⟨d1, num, wt, ht, hs1⟩ | ht | ht <;> rw [ht]
    · have hon1 := hon.same hs1
      dsimp only
      cases findField emd num 0 with
      | some r =>
        dsimp only
        rw [erase_getD]
        rcases (ihF r.2 wt base d1 (efs.getD r.1 .unset) hon1 fun h => owned_getD (hown h) r.1).cases with
          ⟨x, hp, hv, hsame, hfo⟩ | ⟨hp, hv⟩ | ⟨hp, hv⟩ <;> rw [hp, hv]
        · exact ihE emd base x.1 _ _ (hon1.same hsame) (fun h => owned_set (hown h) r.1 (hfo h)) (erase_set ..)
        · exact .err
        · exact .panic
      | none =>
        dsimp only
        rcases skipP_cases d1 num wt hon1.sync with ⟨d2, r, hp, hv, hsame⟩ | ⟨hp, hv⟩ | ⟨hp, hv⟩ <;>
          rw [Dec.step_skip, hp, hv]
        · exact ihE emd base d2 efs _ (hon1.same hsame) hown rfl
        · exact .err
        · exact .panic
    · exact .err
    · exact .panic

theorem fieldAgrees_succ (ihM : MsgAgrees S pol fast buf fuel) (ihE : EntryAgrees S pol fast buf fuel) :
    FieldAgrees S pol fast buf (fuel + 1) := by
  intro fd wt base d cur hon hcur
  rw [fieldStepP, fieldStep]
  cases fd.ty with
  | sc k =>
    dsimp only
    cases fd.card
    case list | packed =>
      exact (agree_readRepeated pol _ k wt hon).map (fun x => congrArg (x.1, ·) (erase_appendTo ..))
        fun x hx => ⟨hx.1, fun h => owned_appendTo (hcur h) (hx.2 h)⟩
    all_goals exact (agree_readScalar pol _ k wt hon).map (fun _ => rfl) fun _ hx => hx
  | msg i =>
    dsimp only
    by_cases hw : wt ≠ wtLen
    · rw [if_pos hw, if_pos hw]; exact .err
    · rw [if_neg hw, if_neg hw]
      rcases bytesWin_cases d with ⟨d', s, l, hwin, ho, hsame, hfit, _⟩ | ⟨hwin, ho⟩ | ⟨hwin, ho⟩ <;> rw [hwin, ho]
      · dsimp only
        rw [hon.sync.window hfit]
        -- the arms for a nested message differ only in how the decoded message is stored (`wrap`)
        have nested : ∀ (wrap : PV → PF) (wrapV : V → F), (∀ v, (wrap v).erase buf = wrapV (v.erase buf)) →
            (∀ v, Safe pol fast → v.owned = true → (wrap v).owned = true) →
            Agree (eraseWith (PF.erase buf)) (Kept pol fast d PF.owned)
              (match unmarshalMsgP S pol fast buf fuel (S.md i) (base + s) l with
                | .ok (nfs, nunk) => .ok (d', wrap (.msg nfs nunk))
                | .err => .err
                | .panic => .panic)
              (match unmarshalMsg S fast fuel (S.md i) ((buf.drop (base + s)).take l) with
                | .ok (nfs, nunk) => .ok (d', wrapV (.msg nfs nunk))
                | .err => .err
                | .panic => .panic) := by
          intro wrap wrapV he ho
          rcases (ihM (S.md i) (base + s) l).cases with ⟨m, hp, hv, hm⟩ | ⟨hp, hv⟩ | ⟨hp, hv⟩ <;> rw [hp, hv]
          · exact .ok (congrArg (d', ·) (he (.msg m.1 m.2))) ⟨hsame, fun h => ho _ h (hm h)⟩
          · exact .err
          · exact .panic
        cases fd.card with
        | map =>
          dsimp only
          rcases (ihE (S.md i) (base + s) _ (initFieldsP (S.md i)) _ (On.new buf (base + s) l fast)
            (fun _ => owned_initFields _) (erase_initFields buf _)).cases with
            ⟨efs, hp, hv, hefs⟩ | ⟨hp, hv⟩ | ⟨hp, hv⟩ <;> rw [hp, hv]
          · have hentry : Safe pol fast → (PV.msg (fixEntryP S (S.md i) efs) []).owned = true := fun h => by
              rw [PV.owned, owned_fixEntry S _ (hefs h)]; rfl
            dsimp only
            erw [← erase_fixEntry]
            cases cur with
            | many es =>
              exact .ok (congrArg (fun x => (d', F.many x)) (erase_mapInsert ..))
                ⟨hsame, fun h => owned_mapInsert buf (hentry h) (hcur h)⟩
            | _ => exact .ok rfl ⟨hsame, fun h => by rw [PF.owned, ownedVs, ownedVs, hentry h]; rfl⟩
          · exact .err
          · exact .panic
        | list =>
          exact nested (fun v => appendToP cur [v]) (fun v => appendTo (cur.erase buf) [v])
            (fun v => erase_appendTo ..) fun v h hv => owned_appendTo (hcur h) (by rw [ownedVs, ownedVs, hv]; rfl)
        | _ => exact nested .one .one (fun _ => rfl) fun _ _ hv => hv
      · exact .err
      · exact .panic

end run

/-- the provenance run against the value run, all four mutually recursive parts, by induction on the fuel -/
theorem unmarshalP_agrees (S : Schema) (pol : Policy) (fast : Bool) (buf : Bytes) : ∀ (fuel : Nat),
    MsgAgrees S pol fast buf fuel ∧ LoopAgrees S pol fast buf fuel ∧ FieldAgrees S pol fast buf fuel ∧
      EntryAgrees S pol fast buf fuel
  | 0 => by
    unfold MsgAgrees LoopAgrees FieldAgrees EntryAgrees
    refine ⟨?_, ?_, ?_, ?_⟩ <;> intros
    · rw [unmarshalMsgP]; exact .err
    · rw [unmarshalLoopP]; exact .err
    · rw [fieldStepP]; exact .err
    · rw [entryLoopP]; exact .err
  | fuel + 1 =>
    have ⟨ihM, ihL, ihF, ihE⟩ := unmarshalP_agrees S pol fast buf fuel
    ⟨msgAgrees_succ ihL, loopAgrees_succ ihL ihF, fieldAgrees_succ ihM ihE, entryAgrees_succ ihE ihF⟩

/-- OWNERSHIP (policy-generic form): safe mode + a policy that copies at every site in safe
    mode ⇒ no `alias` at any depth of the result -/
theorem unmarshalP_owned (S : Schema) (pol : Policy) (hpol : ∀ site, pol site false = true) (md : MD) (p : Bytes)
    {m : PMsg} (h : unmarshalP S pol false md p = .ok m) : m.owned = true :=
  ((unmarshalP_agrees S pol false p _).1 md 0 p.length).2 m h ⟨rfl, hpol⟩

theorem readScalarP_same {pol : Policy} {buf : Bytes} {base : Nat} {site : Site} {k : SK} {d : Dec} {wt : Nat}
    (hs : Sync buf base d) {d' : Dec} {v : PV} (h : readScalarP pol buf base site k d wt = .ok (d', v)) : Same d d' :=
  ((agree_readScalar pol site k wt ⟨hs, rfl⟩).2 _ h).1

theorem readRepeatedP_same {pol : Policy} {buf : Bytes} {base : Nat} {site : Site} {k : SK} {d : Dec} {wt : Nat}
    (hs : Sync buf base d) {d' : Dec} {vs : List PV} (h : readRepeatedP pol buf base site k d wt = .ok (d', vs)) : Same d d' :=
  ((agree_readRepeated pol site k wt ⟨hs, rfl⟩).2 _ h).1

end Csproto.Prov
