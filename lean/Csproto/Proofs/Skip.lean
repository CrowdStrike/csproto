import Csproto.Proofs.Dec
/-
  `Decoder.Skip` on a well-formed field returns exactly the field's raw bytes (key and payload)
  and leaves the cursor on the next field.
-/
namespace Csproto

/-- the payloads `Skip` steps over, by wire type: a 64-bit varint, any eight / four bytes, a length-prefixed body of at
    most `maxFieldLen` bytes -/
inductive WFPayload : Nat → Bytes → Prop
  | varint (v : Nat) (hv : v < two64) : WFPayload wtVarint (encVarint v)
  | fixed64 (b : Bytes) (h : b.length = 8) : WFPayload wtFixed64 b
  | fixed32 (b : Bytes) (h : b.length = 4) : WFPayload wtFixed32 b
  | len (body : Bytes) (h : body.length ≤ maxFieldLen) : WFPayload wtLen (encVarint body.length ++ body)

theorem WFPayload.ne_nil {wt : Nat} {p : Bytes} (h : WFPayload wt p) : p ≠ [] := by
  cases h with
  | varint v hv => exact encVarint_ne_nil v
  | fixed64 b h =>
    intro e
    subst e
    simp at h
  | fixed32 b h =>
    intro e
    subst e
    simp at h
  | len body h => simp [encVarint_ne_nil]

theorem WFPayload.wt_lt {wt : Nat} {p : Bytes} (h : WFPayload wt p) : wt < 8 := by
  cases h <;> decide

/-- safe mode re-reads the key where it started and finds the expected field number and wire type -/
theorem Dec.skipCheck_at {d : Dec} {pre rest : Bytes} {tag wt : Nat} (ht : tag ≤ maxTagValue) (hw : wt < 8)
    (hp : d.p = pre ++ (encTag tag wt ++ rest)) :
    d.skipCheck tag wt pre.length (sizeOfTagKey tag) = .ok () := by
  have hks := keyOf_shift ht hw
  unfold Dec.skipCheck
  by_cases hf : d.fast
  · rw [if_pos hf]
  · rw [if_neg hf, sliceFrom_ok (by rw [hp, List.length_append]; exact Nat.le_add_right ..), hp, List.drop_left]
    dsimp only
    rw [decodeVarint_encTag ht hw]
    dsimp only
    rw [if_neg (fun h => h (sizeOfTagKey_eq_length ht hw).symm), hks.1, hks.2, if_neg (fun h => h.elim (· rfl) (· rfl))]

theorem Dec.skipLen_at {d : Dec} {pre payload post : Bytes} {wt : Nat} (hp : WFPayload wt payload)
    (h : d.At pre (payload ++ post)) : d.skipLen wt = .ok payload.length := by
  unfold Dec.skipLen
  cases hp with
  | varint v hv =>
    rw [if_pos rfl, h.slice]
    dsimp only
    rw [decodeVarint_encVarint v hv]
    rfl
  | fixed64 b hb => rw [if_neg (by decide), if_pos rfl, hb]
  | fixed32 b hb => rw [if_neg (by decide), if_neg (by decide), if_neg (by decide), if_pos rfl, hb]
  | len body hb =>
    rw [if_neg (by decide), if_neg (by decide), if_pos rfl, h.slice]
    dsimp only
    rw [List.append_assoc, decodeVarint_encVarint _ (Nat.lt_of_le_of_lt hb (by decide))]
    dsimp only
    rw [if_neg (Nat.ne_of_gt (encVarint_length_pos _)), if_neg (Nat.not_lt.mpr hb), List.length_append]

theorem Dec.skip_at {d : Dec} {pre payload post : Bytes} {tag wt : Nat}
    (h1 : 1 ≤ tag) (ht : tag ≤ maxTagValue) (hp : WFPayload wt payload)
    (h : d.At (pre ++ encTag tag wt) (payload ++ post))
    (hkey : d.ke = d.off ∧ d.ke > d.ks → d.ks = pre.length) :
    d.skip tag wt = ({ d with off := d.off + payload.length }, .ok (.bytes (encTag tag wt ++ payload))) := by
  have hw := hp.wt_lt
  have hne : payload ++ post ≠ [] := by simp [hp.ne_nil]
  have hoff : d.off = pre.length + (encTag tag wt).length := h.off.trans List.length_append
  have hpp : d.p = pre ++ (encTag tag wt ++ (payload ++ post)) := h.p.trans (List.append_assoc ..)
  -- the key's first byte: recorded by `DecodeTag`, or `offset - sz` for a minimally encoded key
  have hbof : (if d.ke = d.off ∧ d.ke > d.ks then d.ks else d.off - sizeOfTagKey tag) = pre.length := by
    by_cases hc : d.ke = d.off ∧ d.ke > d.ks
    · rw [if_pos hc]; exact hkey hc
    · rw [if_neg hc, sizeOfTagKey_eq_length ht hw, hoff, Nat.add_sub_cancel]
  have hfit : ¬ (d.off + payload.length > d.len) := by
    rw [h.len, h.off]
    exact Nat.not_lt.mpr (Nat.add_le_add_left (List.length_append ▸ Nat.le_add_right ..) _)
  unfold Dec.skip
  rw [if_neg (h.not_eof hne)]
  dsimp only
  rw [hbof, Dec.skipCheck_at ht hw hpp, Dec.skipLen_at hp h]
  dsimp only
  rw [if_neg hfit, hoff, Nat.add_assoc, Nat.add_sub_cancel_left, ← List.length_append, hpp, List.drop_left,
    ← List.append_assoc (encTag tag wt) payload post, List.take_left]

end Csproto
