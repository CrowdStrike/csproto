import Csproto.Props.C14Spec
import Csproto.Props.C13
/-
  C14 — Pooled lazy-decode results are isolated across reuse: the facts about one object.

  The three parts of the claim, tagged as in the C14 entry of `MANIFEST.json`:
  (A) *Stale state is unobservable.*  A recycled object differs from a new one only in the wire-type marks of
      fields whose data is empty (`FdsEq`).  The decode pass, every accessor, nested-payload selection and `Range`
      respect that: `decodeIntoLoop_congr` / `decode_into_clean`, `accessTag_congr`, `nestedSelect_congr`,
      `tagsOf_congr`.
  (B) *`Close` only clears.*  Every object `close` touches ends with no recorded data and no closers, and only
      such objects are put into a pool: `closeObj_onlyClears`, and with the guards of `Close`, `closeRes_pools`.
  (C) *Decoding into a cleared recycled object is decoding into a new one* (`reuse_eq_new`), so every accessor
      answers as on `decodeInto flat (cleanFds n) input` — the value C13 relates to the reference parse of that
      input — whichever pooled object was chosen (`reuse_answers`).

  On field data of the decoder's length no accessor panics (`*_ne_panic`).  The proofs about whole histories
  (`Props/C14Forest.lean`, `Props/C14Nested.lean`; root results only: `Props/C14History.lean`) take from here
  (A), `reuse_eq_new`, `*_ne_panic`, `Cleared`, `clearObj` and the two lemmas about `close` (`closeObj_succ`,
  `closeObj_rel`).  The theorems of (B) and `reuse_answers` are stated for their own sake: the history proofs
  use the closer-forest invariant `C14N.W` instead of `OnlyClears`.
-/
namespace Csproto.C14
open Csproto

theorem find_filter_ne {κ β} [DecidableEq κ] (k k' : κ) (h : k' ≠ k) (l : List (κ × β)) :
    (l.filter (fun x => x.1 ≠ k)).find? (fun x => x.1 = k') = l.find? (fun x => x.1 = k') := by
  rw [List.find?_filter]
  congr; funext x
  by_cases e : x.1 = k' <;> simp [e, h]

/-- the tables of `LState` and of the specifications are association lists written by "cons and filter":
    a lookup after a write -/
theorem find_set {κ β} [DecidableEq κ] (l : List (κ × β)) (k k' : κ) (v : β) :
    (((k, v) :: l.filter (·.1 ≠ k)).find? (·.1 = k')).map (·.2) =
      if k' = k then some v else (l.find? (·.1 = k')).map (·.2) := by
  by_cases h : k' = k
  · simp [h]
  · simp only [List.find?_cons, Ne.symm h, decide_false, h, if_false]
    rw [find_filter_ne k k' h]

theorem decAt_root (d : LDec) : decAt d [] = some d := rfl

theorem decAt_append : ∀ (p : List Nat) (d : LDec) (t : Nat), decAt d (p ++ [t]) = (decAt d p).bind (·.sub t)
  | [], d, t => by
    simp only [List.nil_append, decAt, Option.bind_some]
    cases h : d.sub t <;> simp
  | x :: p, d, t => by
    simp only [List.cons_append, decAt]
    cases h : d.sub x with
    | none => rfl
    | some d' => simp only [Option.bind_some]; exact decAt_append p d' t

@[simp] theorem obj_setObj (s : LState) (id id' : Nat) (o : LObj) :
    (s.setObj id o).obj? id' = if id' = id then some o else s.obj? id' := find_set _ _ _ _

@[simp] theorem pool_setPool (s : LState) (p p' : List Nat) (ids : List Nat) :
    (s.setPool p ids).pool p' = if p' = p then ids else s.pool p' := by
  unfold LState.setPool LState.pool
  rw [find_set]; split <;> rfl

@[simp] theorem handle_setHandle (s : LState) (h h' : Nat) (v : Option Nat) :
    (s.setHandle h v).handle? h' = if h' = h then some v else s.handle? h' := find_set _ _ _ _

@[simp] theorem obj_setPool (s : LState) (p : List Nat) (ids : List Nat) (id : Nat) : (s.setPool p ids).obj? id = s.obj? id := rfl
@[simp] theorem pool_setObj (s : LState) (id : Nat) (o : LObj) (p : List Nat) : (s.setObj id o).pool p = s.pool p := rfl
@[simp] theorem rootPooled_setObj (s : LState) (id : Nat) (o : LObj) : (s.setObj id o).rootPooled = s.rootPooled := rfl
@[simp] theorem rootPooled_setPool (s : LState) (p ids) : (s.setPool p ids).rootPooled = s.rootPooled := rfl
@[simp] theorem root_setObj (s : LState) (id : Nat) (o : LObj) : (s.setObj id o).root = s.root := rfl
@[simp] theorem root_setPool (s : LState) (p ids) : (s.setPool p ids).root = s.root := rfl
@[simp] theorem root_setHandle (s : LState) (h v) : (s.setHandle h v).root = s.root := rfl
@[simp] theorem handle_setObj (s : LState) (id : Nat) (o : LObj) (h : Nat) : (s.setObj id o).handle? h = s.handle? h := rfl
@[simp] theorem handle_setPool (s : LState) (p ids) (h : Nat) : (s.setPool p ids).handle? h = s.handle? h := rfl
@[simp] theorem obj_setHandle (s : LState) (h v) (i : Nat) : (s.setHandle h v).obj? i = s.obj? i := rfl
@[simp] theorem pool_setHandle (s : LState) (h v) (p) : (s.setHandle h v).pool p = s.pool p := rfl

/-- same recorded data; wire-type marks may differ only where no data is recorded -/
def FdEq (a b : FD) : Prop := a.data = b.data ∧ (a.data ≠ [] → a.wt = b.wt)

inductive FdsEq : List FD → List FD → Prop
  | nil : FdsEq [] []
  | cons {a b : FD} {xs ys : List FD} : FdEq a b → FdsEq xs ys → FdsEq (a :: xs) (b :: ys)

theorem FdEq.refl (a : FD) : FdEq a a := ⟨rfl, fun _ => rfl⟩

theorem FdsEq.refl : ∀ (xs : List FD), FdsEq xs xs
  | [] => FdsEq.nil
  | x :: xs => FdsEq.cons (FdEq.refl x) (FdsEq.refl xs)

theorem FdsEq.length {xs ys : List FD} (h : FdsEq xs ys) : xs.length = ys.length := by
  induction h with
  | nil => rfl
  | cons _ _ ih => simp [ih]

theorem FdsEq.get {xs ys : List FD} (h : FdsEq xs ys) (i : Nat) :
    (xs[i]? = none ∧ ys[i]? = none) ∨ ∃ a b, xs[i]? = some a ∧ ys[i]? = some b ∧ FdEq a b := by
  induction h generalizing i with
  | nil => exact .inl ⟨rfl, rfl⟩
  | cons hab _ ih =>
    cases i with
    | zero => right; exact ⟨_, _, rfl, rfl, hab⟩
    | succ i => exact ih i

theorem FdsEq.set {xs ys : List FD} (h : FdsEq xs ys) (i : Nat) {a b : FD} (hab : FdEq a b) :
    FdsEq (xs.set i a) (ys.set i b) := by
  induction h generalizing i with
  | nil => exact FdsEq.nil
  | cons hxy hrest ih =>
    cases i with
    | zero => exact FdsEq.cons hab hrest
    | succ i => exact FdsEq.cons hxy (ih i)

theorem clean_eq_new : ∀ (fds : List FD), (∀ fd ∈ fds, fd.data = []) → FdsEq fds (cleanFds fds.length)
  | [], _ => by simp only [cleanFds, List.length_nil, List.replicate_zero]; exact FdsEq.nil
  | fd :: fds, h => by
    have h1 := h fd (by simp)
    have := clean_eq_new fds (fun x hx => h x (by simp [hx]))
    simp only [cleanFds, List.length_cons, List.replicate_succ]
    exact FdsEq.cons ⟨h1, fun hne => absurd h1 hne⟩ this

/-- the pass reads a field's wire-type mark only where data is recorded -/
theorem FdEq.guard {a b : FD} (h : FdEq a b) (wt : Nat) :
    (¬ a.data.isEmpty = true ∧ a.wt ≠ wt) ↔ (¬ b.data.isEmpty = true ∧ b.wt ≠ wt) := by
  rw [← h.1]
  exact and_congr_right fun hne => by rw [h.2 (by simpa using hne)]

theorem FdEq.push {a b : FD} (h : FdEq a b) (wt : Nat) (v : Bytes) :
    FdEq { wt := wt, data := a.data ++ [v] } { wt := wt, data := b.data ++ [v] } :=
  ⟨by rw [h.1], fun _ => rfl⟩

theorem decodeIntoLoop_congr (flat : List Nat) :
    ∀ (fuel : Nat) (d : Dec) (xs ys : List FD), FdsEq xs ys →
      match decodeIntoLoop flat fuel d xs, decodeIntoLoop flat fuel d ys with
      | .ok xs', .ok ys' => FdsEq xs' ys'
      | .err, .err => True
      | .panic, .panic => True
      | _, _ => False := by
  intro fuel
  induction fuel with
  | zero => intro d xs ys _; trivial
  | succ fuel ih =>
    intro d xs ys h
    rw [decodeIntoLoop, decodeIntoLoop]
    by_cases hmore : d.off < d.len
    · rw [if_neg (not_not_intro hmore), if_neg (not_not_intro hmore)]
      generalize d.step .tag = st
      obtain ⟨d1, o, a⟩ := st
      cases o with
      | ok it =>
        cases it with
        | tag tag wt =>
          dsimp only
          cases idxOf? flat tag with
          | none =>
            dsimp only
            generalize d1.step (.skip tag wt) = sk
            obtain ⟨d2, o2, a2⟩ := sk
            cases o2 with
            | ok it2 => exact ih d2 xs ys h
            | _ => trivial
          | some i =>
            dsimp only
            rcases h.get i with ⟨hx, hy⟩ | ⟨fa, fb, hx, hy, hab⟩
            · rw [hx, hy]; trivial
            · rw [hx, hy]
              dsimp only
              by_cases hc : ¬ fa.data.isEmpty = true ∧ fa.wt ≠ wt
              · rw [if_pos hc, if_pos ((hab.guard wt).mp hc)]; trivial
              · rw [if_neg hc, if_neg (mt (hab.guard wt).mpr hc)]
                by_cases hk : wt = wtVarint ∨ wt = wtFixed32 ∨ wt = wtFixed64
                · rw [if_pos hk, if_pos hk]
                  generalize d1.step (.skip tag wt) = sk
                  obtain ⟨d2, o2, a2⟩ := sk
                  cases o2 with
                  | ok it2 =>
                    cases it2 with
                    | bytes _ => exact ih d2 _ _ (h.set i (hab.push wt (d1.rest.take (d2.off - d1.off))))
                    | _ => trivial
                  | _ => trivial
                · rw [if_neg hk, if_neg hk]
                  by_cases hl : wt = wtLen
                  · rw [if_pos hl, if_pos hl]
                    generalize d1.step .bytes = sk
                    obtain ⟨d2, o2, a2⟩ := sk
                    cases o2 with
                    | ok it2 =>
                      cases it2 with
                      | bytes val => exact ih d2 _ _ (h.set i (hab.push wt val))
                      | _ => trivial
                    | _ => trivial
                  · rw [if_neg hl, if_neg hl]; trivial
        | _ => trivial
      | _ => trivial
    · rw [if_pos hmore, if_pos hmore]
      exact h

/-- **Decoding into a clean recycled object gives the same field data as decoding into a new one**
    (up to unobservable wire-type marks on empty fields). -/
theorem decode_into_clean (flat : List Nat) (fds : List FD) (input : Bytes)
    (hclean : ∀ fd ∈ fds, fd.data = []) :
    match decodeInto flat fds input, decodeInto flat (cleanFds fds.length) input with
    | .ok xs', .ok ys' => FdsEq xs' ys'
    | .err, .err => True
    | .panic, .panic => True
    | _, _ => False :=
  decodeIntoLoop_congr flat _ _ fds _ (clean_eq_new fds hclean)

theorem accessFD_congr {a b : FD} (h : FdEq a b) (hne : a.data ≠ []) (acc : Acc) : accessFD a acc = accessFD b acc := by
  have hwt := h.2 hne
  have hd := h.1
  cases a with
  | mk wa da =>
    cases b with
    | mk wb db =>
      simp only at hwt hd
      subst hwt; subst hd
      rfl

theorem accessTag_congr (dec : LDec) {xs ys : List FD} (h : FdsEq xs ys) (tag : Nat) (acc : Acc) :
    accessTag dec xs tag acc = accessTag dec ys tag acc := by
  unfold accessTag
  split
  · rfl
  · split
    · rfl
    · rename_i i _
      rcases h.get i with ⟨hx, hy⟩ | ⟨fa, fb, hx, hy, hab⟩
      · simp [hx, hy]
      · simp only [hx, hy]
        by_cases he : fa.data.isEmpty
        · have : fb.data.isEmpty := by rw [← hab.1]; exact he
          simp [he, this]
        · have hne : fa.data ≠ [] := by simpa using he
          have : ¬ fb.data.isEmpty := by rw [← hab.1]; exact he
          simp only [he, this]
          exact accessFD_congr hab hne acc

theorem nestedSelect_congr (dec : LDec) {xs ys : List FD} (h : FdsEq xs ys) (tag : Nat) :
    nestedSelect dec xs tag = nestedSelect dec ys tag := by
  unfold nestedSelect
  split
  · rfl
  · split
    · rfl
    · rename_i i _
      split
      · rfl
      · rcases h.get i with ⟨hx, hy⟩ | ⟨fa, fb, hx, hy, hab⟩
        · simp [hx, hy]
        · simp only [hx, hy, ← hab.1]
          cases hl : fa.data.getLast? with
          | none => rfl
          | some last =>
            have hne : fa.data ≠ [] := by intro e; simp [e] at hl
            simp only [hab.2 hne]

theorem nestedSelect_payload {node : LDec} {fds : List FD} {t : Nat} {sub : LDec} {pb : Bytes}
    (h : nestedSelect node fds t = .payload sub pb) : node.sub t = some sub := by
  unfold nestedSelect at h
  split at h
  · cases h
  · split at h
    · cases h
    · split at h
      · cases h
      · rename_i sub' hs
        split at h
        · cases h
        · split at h
          · cases h
          · split at h
            · cases h
            · injection h with h1 _; rw [hs, h1]

theorem tagsOf_congr (root : LDec) {xs ys : List FD} (h : FdsEq xs ys) : tagsOf root xs = tagsOf root ys := by
  unfold tagsOf
  generalize root.flat = ts
  induction h generalizing ts with
  | nil => rfl
  | cons hab _ ih =>
    cases ts with
    | nil => rfl
    | cons t ts => simp only [List.zip_cons_cons, List.map_cons, hab.1, ih ts]

def Cleared (o : LObj) : Prop := (∀ fd ∈ o.fds, fd.data = []) ∧ o.closers = []

/-- what `Close` may do to the heap and the pools: objects are untouched or cleared, cleared
    objects stay cleared, and only cleared objects are added to a pool -/
structure OnlyClears (s s' : LState) : Prop where
  objs : ∀ id o', s'.obj? id = some o' → s.obj? id = some o' ∨ Cleared o'
  pools : ∀ p id, id ∈ s'.pool p → id ∈ s.pool p ∨ ∃ o', s'.obj? id = some o' ∧ Cleared o'
  keep : ∀ id o, s.obj? id = some o → Cleared o → ∃ o', s'.obj? id = some o' ∧ Cleared o'

theorem OnlyClears.refl (s : LState) : OnlyClears s s :=
  ⟨fun _ _ h => Or.inl h, fun _ _ h => Or.inl h, fun _ o h hc => ⟨o, h, hc⟩⟩

theorem OnlyClears.trans {a b c : LState} (h1 : OnlyClears a b) (h2 : OnlyClears b c) : OnlyClears a c := by
  refine ⟨?_, ?_, ?_⟩
  · intro id o' h
    rcases h2.objs id o' h with hb | hc
    · exact h1.objs id o' hb
    · exact Or.inr hc
  · intro p id h
    rcases h2.pools p id h with hb | hc
    · rcases h1.pools p id hb with ha | ⟨o, ho, hcl⟩
      · exact Or.inl ha
      · exact Or.inr (h2.keep id o ho hcl)
    · exact Or.inr hc
  · intro id o h hc
    obtain ⟨o1, ho1, hc1⟩ := h1.keep id o h hc
    exact h2.keep id o1 ho1 hc1

/-- the object `close` leaves behind -/
def clearObj (o : LObj) : LObj := { o with fds := o.fds.map fun fd => { fd with data := [] }, closers := [] }

theorem clearObj_cleared (o : LObj) : Cleared (clearObj o) := by
  constructor
  · intro fd hfd
    simp [clearObj] at hfd
    obtain ⟨x, _, rfl⟩ := hfd; rfl
  · rfl

theorem closeObj_succ (fuel : Nat) (s : LState) (id : Nat) (o : LObj) (ho : s.obj? id = some o) :
    closeObj (fuel + 1) s id =
      let s2 := o.closers.foldl (closeObj fuel) (s.setObj id (clearObj o))
      if isPooledNode s2 o.path then s2.setPool o.path (s2.pool o.path ++ [id]) else s2 := by
  rw [closeObj]; simp only [ho]; rfl

/-- `close` respects every reflexive and transitive relation between states that its two writes respect: clearing
    the object, and — after the closers have been closed — adding it to the pool of its node -/
theorem closeObj_rel (R : LState → LState → Prop) (refl : ∀ s, R s s) (trans : ∀ {a b c}, R a b → R b c → R a c)
    (clear : ∀ s id o, s.obj? id = some o → R s (s.setObj id (clearObj o)))
    (pool : ∀ (s : LState) (id : Nat) (o : LObj) (s2 : LState), R (s.setObj id (clearObj o)) s2 →
      R s2 (s2.setPool o.path (s2.pool o.path ++ [id]))) :
    ∀ (fuel : Nat) (s : LState) (id : Nat), R s (closeObj fuel s id)
  | 0, s, _ => refl s
  | fuel + 1, s, id => by
    cases ho : s.obj? id with
    | none => rw [closeObj]; simp only [ho]; exact refl s
    | some o =>
      rw [closeObj_succ fuel s id o ho]
      have fold : ∀ (ids : List Nat) (s1 : LState), R s1 (ids.foldl (closeObj fuel) s1) := fun ids => by
        induction ids with
        | nil => exact refl
        | cons c cs ih => exact fun s1 => trans (closeObj_rel R refl trans clear pool fuel s1 c) (ih _)
      have h2 := fold o.closers (s.setObj id (clearObj o))
      dsimp only
      split
      · exact trans (trans (clear s id o ho) h2) (pool s id o _ h2)
      · exact trans (clear s id o ho) h2

theorem onlyClears_setObj (s : LState) (id : Nat) (x : LObj) (hx : Cleared x) : OnlyClears s (s.setObj id x) where
  objs := fun i o' h => by
    rw [obj_setObj] at h
    by_cases e : i = id
    · -- the written object: it is `x`
      rw [if_pos e] at h
      have hxo : x = o' := Option.some.inj h
      subst hxo
      exact Or.inr hx
    · rw [if_neg e] at h
      exact Or.inl h
  pools := fun _ _ h => Or.inl h
  keep := fun i o h hc => by
    by_cases e : i = id
    · exact ⟨x, by simp [e], hx⟩
    · exact ⟨o, by simp [e, h], hc⟩

/-- **`(*DecodeResult).close` only clears**: every object it touches ends up with no recorded data
    and no closers, and every object it returns to a pool is such an object. -/
theorem closeObj_onlyClears : ∀ (fuel : Nat) (s : LState) (id : Nat), OnlyClears s (closeObj fuel s id) :=
  closeObj_rel OnlyClears OnlyClears.refl OnlyClears.trans
    (fun s id o _ => onlyClears_setObj s id (clearObj o) (clearObj_cleared o))
    fun s id o s2 h2 =>
      -- returned to its pool: the object is (still) cleared in the current state
      { objs := fun _ _ h => Or.inl h
        keep := fun _ o2 h hc => ⟨o2, h, hc⟩
        pools := fun p i h => by
          by_cases e : p = o.path
          · subst e
            have h : i ∈ s2.pool o.path ∨ i = id := by simpa using h
            rcases h with h | rfl
            · exact Or.inl h
            · exact Or.inr (h2.keep i _ (by simp) (clearObj_cleared o))
          · exact Or.inl (by simpa [e] using h) }

/-- whatever `(*DecodeResult).Close` (with its `skipClose` / `closed` guards) adds to a pool is cleared -/
theorem closeRes_pools (s : LState) (id : Nat) :
    ∀ p id', id' ∈ (closeRes s id).pool p → id' ∈ s.pool p ∨ ∃ o', (closeRes s id).obj? id' = some o' ∧ Cleared o' := by
  intro p id' h
  unfold closeRes at h ⊢
  cases ho : s.obj? id with
  | none => simp only [ho] at h; exact Or.inl h
  | some o =>
    by_cases hg : o.skipClose = true ∨ o.closed = true
    · simp only [ho, hg, if_true] at h; exact Or.inl h
    · simp only [ho, hg, if_false] at h ⊢
      exact (closeObj_onlyClears (s.objs.length + 1) (s.setObj id { o with closed := true }) id).pools p id' h

/-- **Reuse is invisible.** If the object chosen from the pool is cleared (as `closeObj_onlyClears` guarantees
    for everything `Close` puts there) and has the decoder's length, decoding `input` into it yields
    field data `FdsEq` to what a brand-new object would hold — i.e. to
    `decodeInto flat (cleanFds n) input`, the value C13 relates to the reference parse of `input`. -/
theorem reuse_eq_new (node : LDec) (o : LObj) (input : Bytes) (hcl : Cleared o) (hlen : o.fds.length = node.flat.length) :
    match decodeInto node.flat o.fds input, decodeInto node.flat (cleanFds node.flat.length) input with
    | .ok xs', .ok ys' => FdsEq xs' ys'
    | .err, .err => True
    | .panic, .panic => True
    | _, _ => False := by
  have := decode_into_clean node.flat o.fds input hcl.1
  rw [hlen] at this
  exact this

/-- and therefore every accessor answers as on a brand-new result -/
theorem reuse_answers (node : LDec) (o : LObj) (input : Bytes) (hcl : Cleared o) (hlen : o.fds.length = node.flat.length)
    (xs ys : List FD) (hx : decodeInto node.flat o.fds input = .ok xs)
    (hy : decodeInto node.flat (cleanFds node.flat.length) input = .ok ys) (tag : Nat) (acc : Acc) :
    accessTag node xs tag acc = accessTag node ys tag acc ∧ nestedSelect node xs tag = nestedSelect node ys tag := by
  have := reuse_eq_new node o input hcl hlen
  rw [hx, hy] at this
  exact ⟨accessTag_congr node this tag acc, nestedSelect_congr node this tag⟩

theorem scalarValue_ne_panic {α} (fd : FD) (wt : Nat) (conv : Bytes → Conv α) (mk : α → Item) : scalarValue fd wt conv mk ≠ .panic := by
  unfold scalarValue
  repeat' split
  all_goals simp

theorem sliceValue_ne_panic {α} (fd : FD) (wt : Nat) (conv : Bytes → Conv α) (mk : List α → Item) : sliceValue fd wt conv mk ≠ .panic := by
  unfold sliceValue
  repeat' split
  all_goals simp

theorem accessFD_ne_panic (fd : FD) (a : Acc) : accessFD fd a ≠ .panic := by
  cases a <;> simp only [accessFD] <;> first | exact scalarValue_ne_panic _ _ _ _ | exact sliceValue_ne_panic _ _ _ _ | skip
  · have := sliceValue_ne_panic fd wtLen (fun p => Conv.ok p (List.length p)) fun vs => Item.nats (List.map List.length vs)
    split
    · simp
    · assumption
  · repeat' split
    all_goals simp

theorem accessTag_ne_panic (dec : LDec) (fds : List FD) (tag : Nat) (a : Acc) (hl : fds.length = dec.flat.length) :
    accessTag dec fds tag a ≠ .panic := by
  unfold accessTag
  split
  · simp
  · split
    · simp
    · rename_i i hi
      have hlt := idxOf?_lt hi
      rw [List.getElem?_eq_getElem (by omega)]
      simp only []
      split
      · simp
      · exact accessFD_ne_panic _ _

theorem nestedSelect_ne_panic (dec : LDec) (fds : List FD) (tag : Nat) (hl : fds.length = dec.flat.length) :
    nestedSelect dec fds tag ≠ .ans .panic := by
  unfold nestedSelect
  split
  · simp
  · split
    · simp
    · rename_i i hi
      have hlt := idxOf?_lt hi
      split
      · simp
      · rw [List.getElem?_eq_getElem (by omega)]
        simp only []
        split
        · simp
        · split <;> simp

end Csproto.C14
