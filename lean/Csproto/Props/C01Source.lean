import Csproto.Bridge.EncoderFuncs
import Csproto.Bridge.DecoderFuncs
import Csproto.Proofs.Dec
import Csproto.Props.C01
/-
  C01 for the SOURCE: round trips stated about the functions TRANSLATED from `/repo`'s current encoder.go / decoder.go
  (`Generated/WireFuncs.lean`), with no function of the hand-written model in the statement.

  `source_roundtrip_uint64`: take any destination buffer, any cursor inside it, any field number 1 … 2^29-1 and any 64-bit
  value.  If `(*Encoder).EncodeUInt64(tag, v)` returns (it panics exactly when the buffer is too short:
  `EncoderFuncs.EncodeUInt64_refines`), then on the resulting buffer a Decoder — in either mode, whatever key span it
  remembered — positioned at the same cursor reads with `DecodeTag()` exactly `(tag, WireTypeVarint, nil)` and then with
  `DecodeUInt64()` exactly `(v, nil)`, and its cursor ends where the encoder's cursor ended: the bytes written are the bytes
  consumed.  Likewise `source_roundtrip_sint64` for `EncodeSInt64` / `DecodeSInt64` on every int64.

  The proofs go through the refinement theorems of `Bridge/EncoderFuncs`, `Bridge/DecoderFuncs` and the model's own round
  trip (`Props/C01`): the hand-written model is only the intermediary.  The theorems about a writer / reader pair each, here
  and in `Props/C01SourcePacked`, are instances of `source_roundtrip_field`.
-/
namespace Csproto.C01.Source
open Csproto Csproto.Generated.WireFuncs Csproto.Bridge Csproto.Bridge.WireFuncs Csproto.Bridge.DecoderFuncs Csproto.Bridge.EncoderFuncs

/-- what a returning encoder call leaves when it refines a model step that is a store: the bytes fitted and are in place -/
theorem enc_returns {σ : Type} {W : Go.Out σ Unit} (p : Bytes) (off : Nat) (op : EncOp) (getp : σ → Bytes) (geto : σ → BitVec 64)
    (hstep : ({ buf := p, off := off } : Enc).step op = EncOut.ofRes (({ buf := p, off := off } : Enc).store op.wire))
    (href : match ({ buf := p, off := off } : Enc).step op with
      | .ok e' => ∃ s, W = .ret () s ∧ getp s = e'.buf ∧ (geto s).toNat = e'.off
      | .panic => W = .panic
      | .err _ => False)
    (se : σ) (hret : W = .ret () se) :
    off + op.wire.length ≤ p.length ∧ getp se = writeAt p off op.wire ∧ (geto se).toNat = off + op.wire.length := by
  rw [hstep] at href
  by_cases hfit : off + op.wire.length ≤ p.length
  · rw [store_ok p off _ hfit] at href
    simp only [EncOut.ofRes] at href
    obtain ⟨s, hs, h1, h2⟩ := href
    rw [hret] at hs
    cases hs
    exact ⟨hfit, h1, h2⟩
  · rw [store_panic p off _ hfit] at href
    simp only [EncOut.ofRes] at href
    rw [hret] at href
    cases href

theorem decOf_at (p : Bytes) (off ks ke : BitVec 64) (fast : Bool) (bs : Bytes) (hfit : off.toNat + bs.length ≤ p.length) :
    (decOf (writeAt p off.toNat bs) off ks ke fast).At (p.take off.toNat) (bs ++ p.drop (off.toNat + bs.length)) := by
  constructor
  · show writeAt p off.toNat bs = _
    rw [writeAt, List.append_assoc]
  · show off.toNat = (p.take off.toNat).length
    rw [List.length_take, Nat.min_eq_left (Nat.le_trans (Nat.le_add_right _ _) hfit)]

theorem setWidth64_toNat (v : BitVec 32) : (BitVec.setWidth 64 v).toNat = v.toNat :=
  BitVec.toNat_setWidth_of_le (by decide)

/-- the translated `DecodeTag` on a buffer into which a canonical key (and `vb` behind it) was written at the cursor:
    it returns field number and wire type, records the key span, and leaves the decoder in front of `vb` -/
theorem decodeTag_written (fuel : Nat) (hf : 11 ≤ fuel) (p : Bytes) (off tag wt mode ks ke : BitVec 64) (vb : Bytes)
    (hp : p.length < 2 ^ 63) (ht1 : 1 ≤ tag.toNat) (ht : tag.toNat ≤ 536870911) (hw : wt.toNat < 8)
    (hfit : off.toNat + (encTag tag.toNat wt.toNat ++ vb).length ≤ p.length) :
    ∃ sd, Decoder_DecodeTag fuel (writeAt p off.toNat (encTag tag.toNat wt.toNat ++ vb)) off mode ks ke = .ret (tag, wt, .nil) sd ∧
      sd.d_p = writeAt p off.toNat (encTag tag.toNat wt.toNat ++ vb) ∧ sd.d_mode = mode ∧
      sd.d_keyStart = off ∧ sd.d_offset.toNat = off.toNat + (encTag tag.toNat wt.toNat).length ∧
      (decOf sd.d_p sd.d_offset sd.d_keyStart sd.d_keyEnd false).At (p.take off.toNat ++ encTag tag.toNat wt.toNat)
        (vb ++ p.drop (off.toNat + (encTag tag.toNat wt.toNat ++ vb).length)) := by
  have hlen := writeAt_length hfit
  have hat := decOf_at p off ks ke false _ hfit
  rw [List.append_assoc] at hat
  generalize writeAt p off.toNat (encTag tag.toNat wt.toNat ++ vb) = q at hlen hat ⊢
  obtain ⟨t, w, e, sd, hdt, hdp, hdm, hmatch⟩ := DecodeTag_refines fuel hf q off mode ks ke false
    (by rw [hlen]; exact hp) (by rw [hlen]; exact Nat.le_trans (Nat.le_add_right _ _) hfit)
  rw [Dec.tag_at hat ht1 ht hw] at hmatch
  obtain ⟨he, htn, hwn, hso, hsks, hske⟩ := hmatch
  have hd : decOf sd.d_p sd.d_offset sd.d_keyStart sd.d_keyEnd false =
      (decOf q off ks ke false).afterTag (encTag tag.toNat wt.toNat).length := by
    simp only [decOf, Dec.afterTag, hdp, hso, hsks, hske]
  rw [he, BitVec.eq_of_toNat_eq htn, BitVec.eq_of_toNat_eq hwn] at hdt
  exact ⟨sd, hdt, hdp, hdm, BitVec.eq_of_toNat_eq hsks, hso, hd ▸ hat.afterTag⟩

/-- **Reading back a field.**  `p` holds the key of field `tag` with wire type `w` and then `pay` at the cursor; on the model a
    step `dop` right behind the key reads `item` from `pay` (`hval`), and the translated reader `D` refines that step,
    returning `v` when the model reads `item` (`hD`).  Then the translated `DecodeTag` returns `(tag, w, nil)` — in either
    mode, whatever key span was remembered — and `D` returns `(v, nil)` and stops right behind `pay`. -/
theorem read_back {σ ρ : Type} (fuel : Nat) (hf : 11 ≤ fuel) (p : Bytes) (off tag wt mode ks ke : BitVec 64) (w : Nat) (pay : Bytes)
    (dop : DecOp) (item : Item) (hp : p.length < 2 ^ 63) (ht1 : 1 ≤ tag.toNat) (ht : tag.toNat ≤ 536870911)
    (hwt : wt.toNat = w) (hw : w < 8) (hfit : off.toNat + (encTag tag.toNat w ++ pay).length ≤ p.length)
    (hval : ∀ (d : Dec) (pre post : Bytes), d.At pre (pay ++ post) →
      ∃ a, d.step dop = ({ d with off := d.off + pay.length }, .ok item, a))
    (D : Bytes → BitVec 64 → BitVec 64 → BitVec 64 → BitVec 64 → Go.Out σ (ρ × Go.Err)) (doff : σ → BitVec 64) (v : ρ)
    (hD : ∀ (q : Bytes) (o m k1 k2 : BitVec 64) (d' : Dec) (a : Nat), q.length = p.length → o.toNat ≤ q.length →
      (decOf q o k1 k2 false).step dop = (d', .ok item, a) → ∃ s, D q o m k1 k2 = .ret (v, .nil) s ∧ (doff s).toNat = d'.off) :
    ∃ sd, Decoder_DecodeTag fuel (writeAt p off.toNat (encTag tag.toNat w ++ pay)) off mode ks ke = .ret (tag, wt, .nil) sd ∧
      sd.d_p = writeAt p off.toNat (encTag tag.toNat w ++ pay) ∧ sd.d_mode = mode ∧ sd.d_keyStart = off ∧
      ∃ sd2, D sd.d_p sd.d_offset sd.d_mode sd.d_keyStart sd.d_keyEnd = .ret (v, .nil) sd2 ∧
        (doff sd2).toNat = off.toNat + (encTag tag.toNat w ++ pay).length := by
  subst hwt
  obtain ⟨sd, hdt, hdp, hdm, hks, hso, hat⟩ := decodeTag_written fuel hf p off tag wt mode ks ke pay hp ht1 ht hw hfit
  obtain ⟨a, hst⟩ := hval _ _ _ hat
  rw [List.length_append] at hfit ⊢
  obtain ⟨sd2, hd2, ho2⟩ := hD sd.d_p sd.d_offset sd.d_mode sd.d_keyStart sd.d_keyEnd _ a (by rw [hdp]; exact writeAt_length (List.length_append ▸ hfit))
    (by rw [hdp, writeAt_length (List.length_append ▸ hfit), hso]; exact Nat.le_trans (Nat.add_le_add_left (Nat.le_add_right _ _) _) hfit) hst
  refine ⟨sd, hdt, hdp, hdm, hks, sd2, hd2, ?_⟩
  rw [ho2]
  show sd.d_offset.toNat + pay.length = _
  rw [hso, Nat.add_assoc]

/-- **Reading back a field of any kind.**  `fv` is a field value of C01 in its domain whose value is `mk (conv v)`, `p` holds its
    wire bytes at the cursor, and the translated reader `D` refines the model's step of `fv`'s reader: whenever that
    reads `mk y`, `D` returns `(x, nil)` with `conv x = y` and the model's cursor — the content of its `_refines` theorem on
    accepted input.  `conv` is injective, so `DecodeTag` and `D` return field number, wire type and `v`, and `D` stops behind
    the field.  What the model reads back is C01's `value_step`. -/
theorem read_back_field {σ ρ γ : Type} (fuel : Nat) (hf : 11 ≤ fuel) (p : Bytes) (off tag wt mode ks ke : BitVec 64)
    (hp : p.length < 2 ^ 63) (ht1 : 1 ≤ tag.toNat) (ht : tag.toNat ≤ 536870911)
    (fv : FieldVal) (hv : fv.Valid) (hwt : wt.toNat = fv.wt) (hfit : off.toNat + (fv.encOp tag.toNat).wire.length ≤ p.length)
    (D : Bytes → BitVec 64 → BitVec 64 → BitVec 64 → BitVec 64 → Go.Out σ (ρ × Go.Err)) (doff : σ → BitVec 64) (v : ρ)
    (conv : ρ → γ) (mk : γ → Item) (hinj : ∀ a b, conv a = conv b → a = b) (hitem : fv.item = mk (conv v))
    (hD : ∀ (q : Bytes) (o m k1 k2 : BitVec 64), q.length = p.length → o.toNat ≤ q.length → ∃ x e s, D q o m k1 k2 = .ret (x, e) s ∧
      ∀ d' y a, (decOf q o k1 k2 false).step fv.decOp = (d', .ok (mk y), a) → e = .nil ∧ conv x = y ∧ (doff s).toNat = d'.off) :
    ∃ sd, Decoder_DecodeTag fuel (writeAt p off.toNat (fv.encOp tag.toNat).wire) off mode ks ke = .ret (tag, wt, .nil) sd ∧
      sd.d_p = writeAt p off.toNat (fv.encOp tag.toNat).wire ∧ sd.d_mode = mode ∧ sd.d_keyStart = off ∧
      ∃ sd2, D sd.d_p sd.d_offset sd.d_mode sd.d_keyStart sd.d_keyEnd = .ret (v, .nil) sd2 ∧
        (doff sd2).toNat = off.toNat + (fv.encOp tag.toNat).wire.length := by
  have hval := value_step fv tag.toNat hv
  rw [hitem] at hval
  rw [wire_split fv _ hv] at hfit ⊢
  exact read_back fuel hf p off tag wt mode ks ke _ _ fv.decOp _ hp ht1 ht hwt (wt_lt fv) hfit hval D doff v
    fun q o m k1 k2 d' a hq ho hst => by
      obtain ⟨x, e, s, hr, hm⟩ := hD q o m k1 k2 hq ho
      obtain ⟨rfl, hx, ho2⟩ := hm d' _ a hst
      rw [hinj _ _ hx] at hr
      exact ⟨s, hr, ho2⟩

/-- **The round trip of the source, for any kind of field.**  `fv` is a field value of C01 in its domain; an encoder method `W`
    that refines the model step of `fv`'s writer (`op`, a store of its wire bytes) has returned in state `se`; `D` is a decoder
    method as in `read_back_field`.  Then on the encoder's buffer, from the encoder's starting cursor, the translated
    `DecodeTag` returns `(tag, wt, nil)` and `D` then returns `(v, nil)`, stopping where the encoder stopped. -/
theorem source_roundtrip_field {σ δ β γ : Type} (fuel : Nat) (hf : 11 ≤ fuel) (p : Bytes) (off tag wt mode ks ke : BitVec 64)
    (hp : p.length < 2 ^ 63) (ht1 : 1 ≤ tag.toNat) (ht : tag.toNat ≤ 536870911)
    (fv : FieldVal) (hv : fv.Valid) (hwt : wt.toNat = fv.wt) (op : EncOp) (hop : fv.encOp tag.toNat = op)
    (hstep : ({ buf := p, off := off.toNat } : Enc).step op = EncOut.ofRes (({ buf := p, off := off.toNat } : Enc).store op.wire))
    (W : Go.Out σ Unit) (getp : σ → Bytes) (geto : σ → BitVec 64)
    (href : match ({ buf := p, off := off.toNat } : Enc).step op with
      | .ok e' => ∃ s, W = .ret () s ∧ getp s = e'.buf ∧ (geto s).toNat = e'.off
      | .panic => W = .panic
      | .err _ => False)
    (se : σ) (hret : W = .ret () se)
    (D : Bytes → BitVec 64 → BitVec 64 → BitVec 64 → BitVec 64 → Go.Out δ (β × Go.Err)) (doff : δ → BitVec 64) (v : β)
    (conv : β → γ) (mk : γ → Item) (hinj : ∀ a b, conv a = conv b → a = b) (hitem : fv.item = mk (conv v))
    (hD : ∀ (q : Bytes) (o m k1 k2 : BitVec 64), q.length = p.length → o.toNat ≤ q.length → ∃ x e s, D q o m k1 k2 = .ret (x, e) s ∧
      ∀ d' y a, (decOf q o k1 k2 false).step fv.decOp = (d', .ok (mk y), a) → e = .nil ∧ conv x = y ∧ (doff s).toNat = d'.off) :
    ∃ sd, Decoder_DecodeTag fuel (getp se) off mode ks ke = .ret (tag, wt, .nil) sd ∧
      sd.d_p = getp se ∧ sd.d_mode = mode ∧ sd.d_keyStart = off ∧
      ∃ sd2, D sd.d_p sd.d_offset sd.d_mode sd.d_keyStart sd.d_keyEnd = .ret (v, .nil) sd2 ∧ doff sd2 = geto se := by
  subst hop
  obtain ⟨hfit, hbuf, hend⟩ := enc_returns p off.toNat _ getp geto hstep href se hret
  rw [hbuf]
  obtain ⟨sd, h1, h2, h3, h4, sd2, h5, h6⟩ := read_back_field fuel hf p off tag wt mode ks ke hp ht1 ht fv hv hwt hfit D doff v conv mk
    hinj hitem hD
  exact ⟨sd, h1, h2, h3, h4, sd2, h5, BitVec.eq_of_toNat_eq (h6.trans hend.symm)⟩

/-- **C01 for the source, uint64 fields**: bytes written by the source's `EncodeUInt64` are read back by the source's
    `DecodeTag` + `DecodeUInt64` as the same field number, wire type 0 and value, consuming exactly what was written. -/
theorem source_roundtrip_uint64 (fuel : Nat) (hf : 11 ≤ fuel) (p : Bytes) (off tag v mode ks ke : BitVec 64)
    (hp : p.length < 2 ^ 63) (hoff : off.toNat ≤ p.length) (ht1 : 1 ≤ tag.toNat) (ht : tag.toNat ≤ 536870911)
    (se : Encoder_EncodeUInt64.St) (hret : Encoder_EncodeUInt64 fuel p off tag v = .ret () se) :
    ∃ sd, Decoder_DecodeTag fuel se.e_p off mode ks ke = .ret (tag, 0#64, .nil) sd ∧
      sd.d_p = se.e_p ∧ sd.d_mode = mode ∧ sd.d_keyStart = off ∧
      ∃ sd2, Decoder_DecodeUInt64 fuel sd.d_p sd.d_offset sd.d_mode sd.d_keyStart sd.d_keyEnd = .ret (v, .nil) sd2 ∧
        sd2.d_offset = se.e_offset :=
  source_roundtrip_field fuel hf p off tag 0#64 mode ks ke hp ht1 ht (.uint64 v.toNat) (show v.toNat < two64 by rw [two64_eq]; exact v.isLt) rfl
    (.varint tag.toNat v.toNat) rfl rfl (Encoder_EncodeUInt64 fuel p off tag v) (·.e_p) (·.e_offset)
    (EncodeUInt64_refines fuel (Nat.le_of_succ_le hf) p off tag v hp hoff :) se hret
    (Decoder_DecodeUInt64 fuel) (·.d_offset) v BitVec.toNat .nat (fun _ _ => BitVec.eq_of_toNat_eq) rfl
    (fun q o m k1 k2 hq ho => by
      obtain ⟨x, e, s, hd, _, _, _, _, hm⟩ := DecodeUInt64_refines fuel hf q o m k1 k2 false (hq ▸ hp) ho
      exact ⟨x, e, s, hd, fun _ _ _ hs => (hs ▸ hm :)⟩)

/-- **C01 for the source, sint64 fields (zig-zag)**: bytes written by the source's `EncodeSInt64` are read back by the source's
    `DecodeTag` + `DecodeSInt64` as the same field number, wire type 0 and the same int64 (negative values included), consuming exactly what was written. -/
theorem source_roundtrip_sint64 (fuel : Nat) (hf : 11 ≤ fuel) (p : Bytes) (off tag v mode ks ke : BitVec 64)
    (hp : p.length < 2 ^ 63) (hoff : off.toNat ≤ p.length) (ht1 : 1 ≤ tag.toNat) (ht : tag.toNat ≤ 536870911)
    (se : Encoder_EncodeSInt64.St) (hret : Encoder_EncodeSInt64 fuel p off tag v = .ret () se) :
    ∃ sd, Decoder_DecodeTag fuel se.e_p off mode ks ke = .ret (tag, 0#64, .nil) sd ∧
      sd.d_p = se.e_p ∧ sd.d_mode = mode ∧ sd.d_keyStart = off ∧
      ∃ sd2, Decoder_DecodeSInt64 fuel sd.d_p sd.d_offset sd.d_mode sd.d_keyStart sd.d_keyEnd = .ret (v, .nil) sd2 ∧
        sd2.d_offset = se.e_offset :=
  source_roundtrip_field fuel hf p off tag 0#64 mode ks ke hp ht1 ht (.sint64 v.toInt) (inI64_toInt v) rfl
    (.zigzag64 tag.toNat v.toInt) rfl rfl (Encoder_EncodeSInt64 fuel p off tag v) (·.e_p) (·.e_offset)
    (EncodeSInt64_refines fuel (Nat.le_of_succ_le hf) p off tag v hp hoff :) se hret
    (Decoder_DecodeSInt64 fuel) (·.d_offset) v BitVec.toInt .int (fun _ _ => BitVec.eq_of_toInt_eq) rfl
    (fun q o m k1 k2 hq ho => by
      obtain ⟨x, e, s, hd, _, _, _, _, hm⟩ := DecodeSInt64_refines fuel hf q o m k1 k2 false (hq ▸ hp) ho
      exact ⟨x, e, s, hd, fun _ _ _ hs => (hs ▸ hm :)⟩)

/-- **C01 for the source, sint32 fields (zig-zag)**: bytes written by the source's `EncodeSInt32` are read back by the source's
    `DecodeTag` + `DecodeSInt32` as the same field number, wire type 0 and value, consuming exactly what was written. -/
theorem source_roundtrip_sint32 (fuel : Nat) (hf : 11 ≤ fuel) (p : Bytes) (off tag mode ks ke : BitVec 64) (v : BitVec 32)
    (hp : p.length < 2 ^ 63) (hoff : off.toNat ≤ p.length) (ht1 : 1 ≤ tag.toNat) (ht : tag.toNat ≤ 536870911)
    (se : Encoder_EncodeSInt32.St) (hret : Encoder_EncodeSInt32 fuel p off tag v = .ret () se) :
    ∃ sd, Decoder_DecodeTag fuel se.e_p off mode ks ke = .ret (tag, 0#64, .nil) sd ∧
      sd.d_p = se.e_p ∧ sd.d_mode = mode ∧ sd.d_keyStart = off ∧
      ∃ sd2, Decoder_DecodeSInt32 fuel sd.d_p sd.d_offset sd.d_mode sd.d_keyStart sd.d_keyEnd = .ret (v, .nil) sd2 ∧
        sd2.d_offset = se.e_offset :=
  source_roundtrip_field fuel hf p off tag 0#64 mode ks ke hp ht1 ht (.sint32 v.toInt) (inI32_toInt v) rfl
    (.zigzag32 tag.toNat v.toInt) rfl rfl (Encoder_EncodeSInt32 fuel p off tag v) (·.e_p) (·.e_offset)
    (EncodeSInt32_refines fuel (Nat.le_of_succ_le hf) p off tag v hp hoff :) se hret
    (Decoder_DecodeSInt32 fuel) (·.d_offset) v BitVec.toInt .int (fun _ _ => BitVec.eq_of_toInt_eq) rfl
    (fun q o m k1 k2 hq ho => by
      obtain ⟨x, e, s, hd, _, _, _, _, hm⟩ := DecodeSInt32_refines fuel hf q o m k1 k2 false (hq ▸ hp) ho
      exact ⟨x, e, s, hd, fun _ _ _ hs => (hs ▸ hm :)⟩)

/-- **C01 for the source, uint32 fields**: bytes written by the source's `EncodeUInt32` are read back by the source's
    `DecodeTag` + `DecodeUInt32` as the same field number, wire type 0 and value, consuming exactly what was written. -/
theorem source_roundtrip_uint32 (fuel : Nat) (hf : 11 ≤ fuel) (p : Bytes) (off tag mode ks ke : BitVec 64) (v : BitVec 32)
    (hp : p.length < 2 ^ 63) (hoff : off.toNat ≤ p.length) (ht1 : 1 ≤ tag.toNat) (ht : tag.toNat ≤ 536870911)
    (se : Encoder_EncodeUInt32.St) (hret : Encoder_EncodeUInt32 fuel p off tag v = .ret () se) :
    ∃ sd, Decoder_DecodeTag fuel se.e_p off mode ks ke = .ret (tag, 0#64, .nil) sd ∧
      sd.d_p = se.e_p ∧ sd.d_mode = mode ∧ sd.d_keyStart = off ∧
      ∃ sd2, Decoder_DecodeUInt32 fuel sd.d_p sd.d_offset sd.d_mode sd.d_keyStart sd.d_keyEnd = .ret (v, .nil) sd2 ∧
        sd2.d_offset = se.e_offset :=
  source_roundtrip_field fuel hf p off tag 0#64 mode ks ke hp ht1 ht (.uint32 v.toNat) (show v.toNat < two32 from v.isLt) rfl
    (.varint tag.toNat (BitVec.setWidth 64 v).toNat) (by rw [setWidth64_toNat]; rfl) rfl (Encoder_EncodeUInt32 fuel p off tag v) (·.e_p) (·.e_offset)
    (EncodeUInt32_refines fuel (Nat.le_of_succ_le hf) p off tag v hp hoff :) se hret
    (Decoder_DecodeUInt32 fuel) (·.d_offset) v BitVec.toNat .nat (fun _ _ => BitVec.eq_of_toNat_eq) rfl
    (fun q o m k1 k2 hq ho => by
      obtain ⟨x, e, s, hd, _, _, _, _, hm⟩ := DecodeUInt32_refines fuel hf q o m k1 k2 false (hq ▸ hp) ho
      exact ⟨x, e, s, hd, fun _ _ _ hs => (hs ▸ hm :)⟩)

/-- fixed32 field written by the translated `(*Encoder).EncodeFixed32` is read back by the translated
    `DecodeTag` + `DecodeFixed32` (no model function in the statement). -/
theorem source_roundtrip_fixed32 (fuel : Nat) (hf : 11 ≤ fuel) (p : Bytes) (off tag mode ks ke : BitVec 64) (v : BitVec 32)
    (hp : p.length < 2 ^ 63) (hoff : off.toNat ≤ p.length) (ht1 : 1 ≤ tag.toNat) (ht : tag.toNat ≤ 536870911)
    (se : Encoder_EncodeFixed32.St) (hret : Encoder_EncodeFixed32 fuel p off tag v = .ret () se) :
    ∃ sd, Decoder_DecodeTag fuel se.e_p off mode ks ke = .ret (tag, 5#64, .nil) sd ∧
      sd.d_p = se.e_p ∧ sd.d_mode = mode ∧ sd.d_keyStart = off ∧
      ∃ sd2, Decoder_DecodeFixed32 fuel sd.d_p sd.d_offset sd.d_mode sd.d_keyStart sd.d_keyEnd = .ret (v, .nil) sd2 ∧
        sd2.d_offset = se.e_offset :=
  source_roundtrip_field fuel hf p off tag 5#64 mode ks ke hp ht1 ht (.fixed32 v.toNat) (show v.toNat < two32 from v.isLt) rfl
    (.fixed32 tag.toNat v.toNat) rfl rfl (Encoder_EncodeFixed32 fuel p off tag v) (·.e_p) (·.e_offset)
    (EncodeFixed32_refines fuel (Nat.le_of_succ_le hf) p off tag v hp hoff :) se hret
    (Decoder_DecodeFixed32 fuel) (·.d_offset) v BitVec.toNat .nat (fun _ _ => BitVec.eq_of_toNat_eq) rfl
    (fun q o m k1 k2 hq ho => by
      obtain ⟨x, e, s, hd, _, _, _, _, hm⟩ := DecodeFixed32_refines fuel q o m k1 k2 false (hq ▸ hp) ho
      exact ⟨x, e, s, hd, fun _ _ _ hs => (hs ▸ hm :)⟩)

end Csproto.C01.Source
