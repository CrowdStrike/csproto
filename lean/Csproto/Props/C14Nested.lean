import Csproto.Props.C14Forest
import Csproto.Props.C14NSpec
/-
  C14, whole histories WITH nested results: the pooled state machine of `Model/Pool.lean` refines `NSpec`
  (`Props/C14NSpec.lean`), for every history that keeps to the API contract and for every choice every pool
  (the root decoder's and each nested decoder's) may make.

  `Inv` adds the handles and the specification state to the closer forest `W` of `Props/C14Forest.lean`.  The
  refinement is proved for the extended machine `xstep`, in which the pool choices behind a multi-element path are
  explicit — such a choice is as invisible as the others — and the histories of the model's own operations are
  its histories without `accC`.
-/
namespace Csproto.C14N
open Csproto Csproto.C14

def HRel (s : LState) (G : GMap) (h : Nat) : Option NH → Prop
  | none => s.handle? h = none
  | some .nilRes => s.handle? h = some none
  | some (.live b p g) => ∃ id, s.handle? h = some (some id) ∧ G id = some ⟨b, p, g⟩
  | some .closed => True

structure Inv (s : LState) (sp : NSpec) (G : GMap) : Prop where
  root : s.root = sp.root
  w : W s sp.root G
  handles : ∀ h, HRel s G h (sp.handle? h)
  justClosed : ∀ h, sp.justClosed = some h → ∃ id o, s.handle? h = some (some id) ∧ s.obj? id = some o ∧ o.closed = true

/-- the ids from `s.anon` on are unused.  `accPath` takes the objects it allocates behind a multi-element
    `FieldData` path from there (`Choice.new s.anon`); `accPath_spec` needs `Anon` to know that the pool can make
    that choice, so the client's new ids have to stay below `s.anon` (`ChoiceOKN`) and every step hands `Anon` on.
    It stands beside `Inv` as a hypothesis of the steps that use it: `step_decode`, `step_acc` on a path of at
    most one element, `step_range` and `step_close` refine without it, and these are the steps of
    `Props/C14History.lean`, whose contract `C14.OpOK` puts no bound on new ids -/
def Anon (s : LState) : Prop := ∀ x, s.anon ≤ x → s.obj? x = none

section invariant
variable {s s' : LState} {sp : NSpec} {G G' : GMap}

theorem Inv.init (root : LDec) (pooled : Bool) : Inv (LState.init root pooled) (NSpec.init root) (fun _ => none) where
  root := rfl
  w := { live := by intro id d h; cases h
         forest := by intro i1 i2 d1 d2 o1 o2 c a; cases a
         pool := by intro p id h; simp [LState.init, LState.pool] at h
         nodup := by intro p; simp [LState.init, LState.pool] }
  handles := by intro h; simp [NSpec.init, NSpec.handle?, HRel, LState.init, LState.handle?]
  justClosed := by intro h e; simp [NSpec.init] at e

theorem Anon.init (root : LDec) (pooled : Bool) : Anon (LState.init root pooled) := by
  intro x _; simp [LState.init, LState.obj?]

theorem HRel.mono {h : Nat} {v : Option NH} (r : HRel s G h v)
    (hh : s'.handle? h = s.handle? h) (hG : ∀ x dx, G x = some dx → G' x = some dx) : HRel s' G' h v := by
  match v, r with
  | none, r => exact hh.trans r
  | some .nilRes, r => exact hh.trans r
  | some .closed, _ => trivial
  | some (.live b p g), ⟨id, h1, h2⟩ => exact ⟨id, hh.trans h1, hG _ _ h2⟩

/-- the machine moved on without touching handles; the live objects were kept (and maybe more became live) -/
theorem Inv.grow (r : Inv s sp G) (hroot : s'.root = s.root)
    (hh : ∀ h, s'.handle? h = s.handle? h) (w' : W s' sp.root G')
    (hG : ∀ x dx, G x = some dx → G' x = some dx) : Inv s' sp.clr G' where
  root := hroot.trans r.root
  w := w'
  handles := fun h => (r.handles h).mono (hh h) hG
  justClosed := by intro h e; cases e

theorem Inv.clear (r : Inv s sp G) : Inv s sp.clr G :=
  r.grow rfl (fun _ => rfl) r.w (fun _ _ h => h)

theorem Inv.setHandle (r : Inv s sp G) (h : Nat) (v : Option Nat) (nv : NH)
    (hv : HRel (s.setHandle h v) G h (some nv)) : Inv (s.setHandle h v) (sp.setHandle h nv).clr G where
  root := r.root
  w := r.w.ext (fun _ => rfl) (fun _ => rfl)
  handles := fun h' => by
    show HRel _ G h' ((sp.setHandle h nv).handle? h')
    by_cases e : h' = h
    · simpa [e] using hv
    · simpa [e] using (r.handles h').mono (by simp [e]) (fun _ _ h => h)
  justClosed := by intro h e; cases e

theorem Inv.setNil (r : Inv s sp G) (h : Nat) :
    Inv (s.setHandle h none) (sp.setHandle h .nilRes).clr G :=
  r.setHandle h none .nilRes (by simp [HRel])

theorem Inv.setLive (r : Inv s sp G) (h id : Nat) {b : Bytes} {p : List Nat}
    {g : Nat} (hg : G id = some ⟨b, p, g⟩) : Inv (s.setHandle h (some id)) (sp.setHandle h (.live b p g)).clr G :=
  r.setHandle h (some id) (.live b p g) ⟨id, by simp, hg⟩

end invariant

/-- what the invariant knows about a live object: it holds, up to `FdsEq`, what a brand-new object of its node
    records of its bytes -/
structure LiveView (s : LState) (root : LDec) (id : Nat) (b : Bytes) (p : List Nat) (node : LDec) (fds : List FD)
    (o : LObj) : Prop where
  vw : view root p b = some (node, fds)
  obj : s.obj? id = some o
  path : o.path = p
  machineNode : decAt s.root p = some node
  specNode : decAt root p = some node
  clean : decodeInto node.flat (cleanFds node.flat.length) b = .ok fds
  eq : FdsEq o.fds fds
  len : fds.length = node.flat.length

section live
variable {s s' : LState} {sp : NSpec} {G : GMap}

theorem Inv.liveAt (r : Inv s sp G) {id : Nat} {b : Bytes} {p : List Nat} {g : Nat}
    (hd : G id = some ⟨b, p, g⟩) {node : LDec} {fds : List FD} (hn : decAt sp.root p = some node)
    (hdc : decodeInto node.flat (cleanFds node.flat.length) b = .ok fds) : ∃ o, LiveView s sp.root id b p node fds o := by
  obtain ⟨o, node', fds', ho, l⟩ := r.w.live id _ hd
  obtain rfl : node' = node := Option.some.inj (l.hnode.symm.trans hn)
  obtain rfl : fds' = fds := Res.ok.inj (l.hdec.symm.trans hdc)
  exact ⟨o, by simp only [view, hn, hdc], ho, l.hpath, r.root ▸ hn, hn, hdc, l.eq, (clean_total _ b).2 _ hdc⟩

theorem Inv.live (r : Inv s sp G) {id : Nat} {b : Bytes} {p : List Nat} {g : Nat}
    (hd : G id = some ⟨b, p, g⟩) : ∃ node fds o, LiveView s sp.root id b p node fds o := by
  obtain ⟨_, node, fds, _, l⟩ := r.w.live id _ hd
  exact ⟨node, fds, r.liveAt hd l.hnode l.hdec⟩

/-- the four things a handle can be; a live one comes with the view of its object -/
theorem Inv.handle (r : Inv s sp G) (h : Nat) :
    (sp.handle? h = none ∧ s.handle? h = none) ∨ (sp.handle? h = some .nilRes ∧ s.handle? h = some none) ∨
    sp.handle? h = some .closed ∨
    ∃ b p g id node fds o, sp.handle? h = some (.live b p g) ∧ s.handle? h = some (some id) ∧ G id = some ⟨b, p, g⟩ ∧
      LiveView s sp.root id b p node fds o := by
  have hr := r.handles h
  match hv : sp.handle? h with
  | none => rw [hv] at hr; exact Or.inl ⟨rfl, hr⟩
  | some .nilRes => rw [hv] at hr; exact Or.inr (Or.inl ⟨rfl, hr⟩)
  | some .closed => exact Or.inr (Or.inr (Or.inl rfl))
  | some (.live b p g) =>
    rw [hv] at hr
    obtain ⟨id, h1, h2⟩ := hr
    obtain ⟨node, fds, o, lv⟩ := r.live h2
    exact Or.inr (Or.inr (Or.inr ⟨b, p, g, id, node, fds, o, rfl, h1, h2, lv⟩))

theorem Inv.bumpAnon (r : Inv s sp G) : Inv { s with anon := s.anon + 1 } sp.clr G :=
  r.grow rfl (fun _ => rfl) (r.w.ext (fun _ => rfl) (fun _ => rfl)) (fun _ _ h => h)

theorem Anon.frame {c : Choice} (ha : Anon s) (fr : Frame s s' c)
    (hc : ∀ x, c = .new x → x < s.anon) : Anon s' := by
  intro x hx
  rw [fr.anon] at hx
  exact fr.born x (ha x hx) (fun e => by have := hc x e; omega)

/-- after `FieldData` has taken the id `s.anon` for a nested result and moved the counter on -/
theorem Anon.bump (ha : Anon s) (fr : Frame s s' (.new s.anon)) : Anon { s' with anon := s'.anon + 1 } := by
  intro x hx
  have hx : s.anon + 1 ≤ x := fr.anon ▸ hx
  exact fr.born x (ha x (by omega)) (fun e => by injection e with e; omega)

theorem choiceIn_of_ok {pth : List Nat} {c : Choice} (h : ChoiceOKN s pth c) :
    ChoiceIn s pth c ∧ ∀ x, c = .new x → x < s.anon := by
  cases c with
  | new id => exact ⟨h.1, fun x e => by injection e with e; subst e; exact h.2⟩
  | reuse id => exact ⟨h, fun x e => by cases e⟩

end live

def StepRefines (s : LState) (sp : NSpec) (op : LOp) : Prop :=
  (s.step op).2 = (sp.step op).2 ∧ ∃ G', Inv (s.step op).1 (sp.step op).1 G'

section rootSteps
variable {s : LState} {sp : NSpec} {G : GMap}

theorem step_decode (r : Inv s sp G) (h : Nat) (input : Bytes) (c : Choice)
    (hc : input.isEmpty = false → ChoiceIn s [] c) :
    StepRefines s sp (.decode h input c) ∧
      (Anon s → (input.isEmpty = false → ∀ x, c = .new x → x < s.anon) → Anon (s.step (.decode h input c)).1) := by
  by_cases hemp : input.isEmpty = true
  · unfold StepRefines
    simp only [LState.step, decodeWithPool, hemp, if_true, NSpec.step]
    exact ⟨⟨trivial, G, r.setNil h⟩, fun ha _ => ha⟩
  · have hne : input.isEmpty = false := by simpa using hemp
    -- the input is not empty: the bound on a new id holds outright
    suffices h : StepRefines s sp (.decode h input c) ∧
        (Anon s → (∀ x, c = .new x → x < s.anon) → Anon (s.step (.decode h input c)).1) from
      ⟨h.1, fun ha hlt => h.2 ha (hlt hne)⟩
    unfold StepRefines
    have hd := decodeAt r.root r.w (decAt_root _) hne (hc hne)
    unfold DecodeSpec at hd
    simp only [LState.step, NSpec.step, hne, Bool.false_eq_true, if_false, fresh]
    cases hy : decodeInto sp.root.flat (cleanFds sp.root.flat.length) input with
    | panic => rw [hy] at hd; exact hd.elim
    | err =>
      rw [hy] at hd
      obtain ⟨s', h1, fr, w'⟩ := hd
      simp only [h1]
      exact ⟨⟨trivial, G, r.grow fr.root fr.handles w' (fun _ _ h => h)⟩, fun ha hlt => (ha.frame fr hlt : Anon s')⟩
    | ok fds =>
      rw [hy] at hd
      obtain ⟨s', nid, o', h1, fr, w', f⟩ := hd
      simp only [h1]
      refine ⟨⟨trivial, G.set nid ⟨input, [], sp.gen⟩, ?_⟩, fun ha hlt => (ha.frame fr hlt : Anon s')⟩
      have w2 := w'.addLeaf f input sp.gen (decAt_root _) hy (by simp [f.skip rfl])
      have r1 : Inv s { sp with gen := sp.gen + 1 } G := ⟨r.root, r.w, r.handles, r.justClosed⟩
      have r2 := r1.grow fr.root fr.handles w2 (G.set_sub nid _ f.dead)
      exact r2.setLive h nid (by simp)

theorem close_root (r : Inv s sp G) (h id : Nat) (b : Bytes) (g : Nat)
    (hh : s.handle? h = some (some id)) (hd : G id = some ⟨b, [], g⟩) :
    ∃ G', Inv (closeRes s id) { sp.closeAll g with justClosed := some h } G' := by
  obtain ⟨o, node, fds, ho, l⟩ := r.w.live id _ hd
  have hsk : o.skipClose = false := by simpa using l.skip
  obtain ⟨w0, hcl⟩ := r.w.kill hd ho (r.w.detached_root hd rfl)
  obtain ⟨G', w', c', _⟩ := closeRes_spec w0 hcl hsk l.opn
  have fr := closeRes_frame s id (.reuse 0)
  refine ⟨G', fr.root.trans r.root, w', ?_, ?_⟩
  · intro h'
    show HRel _ G' h' ((sp.closeAll g).handle? h')
    rw [nhandle_closeAll]
    rcases r.handle h' with ⟨e1, e2⟩ | ⟨e1, e2⟩ | e1 | ⟨b', p', g', id', _, _, _, e1, e2, hd', _⟩
    · simpa [e1, HRel, fr.handles] using e2
    · simpa [e1, HRel, closeGen, fr.handles] using e2
    · simp [e1, HRel, closeGen]
    · by_cases eg : g' = g
      · simp [e1, closeGen, eg, HRel]
      · -- a result of another generation is not touched
        have hne : id' ≠ id := fun e => by rw [e, hd] at hd'; cases hd'; exact eg rfl
        simp only [e1, Option.map_some, closeGen, eg, if_false, HRel]
        exact ⟨id', (fr.handles h').trans e2, c'.stay id' _ (by simpa [hne] using hd') (Or.inl eg)⟩
  · intro h' e
    obtain rfl : h = h' := Option.some.inj e
    obtain ⟨o', h1, h2, _⟩ := (closeObj_misc (s.objs.length + 1) (s.setObj id { o with closed := true }) id).flags id
      { o with closed := true } (by simp)
    exact ⟨id, o', (fr.handles h).trans hh, closeRes_open s id o ho hsk l.opn ▸ h1, h2⟩

theorem step_close (r : Inv s sp G) (h : Nat)
    (hok : NOpOK s sp (.close h)) : StepRefines s sp (.close h) := by
  unfold StepRefines
  rcases r.handle h with ⟨e1, e2⟩ | ⟨e1, e2⟩ | e1 | ⟨b, p, g, id, _, _, _, e1, e2, hd, _⟩
  · simp only [LState.step, NSpec.step, e1, e2]; exact ⟨trivial, G, r.clear⟩
  · simp only [LState.step, NSpec.step, e1, e2]; exact ⟨trivial, G, r.clear⟩
  · obtain ⟨id, o, h1, h2, h3⟩ := r.justClosed h (hok e1)
    simp only [LState.step, NSpec.step, e1, h1, closeRes_skip s id o h2 (Or.inr h3)]
    exact ⟨trivial, G, r⟩
  · cases p with
    | nil =>
      simp only [LState.step, NSpec.step, e1, e2, List.isEmpty_nil, if_true]
      exact ⟨trivial, close_root r h id b g e2 hd⟩
    | cons t p =>
      -- `Close` on a nested result does nothing: `skipClose` is set
      obtain ⟨o, node, fds, ho, l⟩ := r.w.live id _ hd
      simp only [LState.step, NSpec.step, e1, e2, List.isEmpty_cons, Bool.false_eq_true, if_false,
        closeRes_skip s id o ho (Or.inl (by simpa using l.skip))]
      exact ⟨trivial, G, r.clear⟩

theorem Anon.close (ha : Anon s) (h : Nat) : Anon (s.step (.close h)).1 := by
  simp only [LState.step]
  split
  · exact ha
  · exact ha
  · exact ha.frame (closeRes_frame s _ (.reuse 0)) (fun _ e => by cases e)

theorem step_range (r : Inv s sp G) (h : Nat)
    (hok : NOpOK s sp (.range h)) : StepRefines s sp (.range h) := by
  unfold StepRefines
  rcases r.handle h with ⟨e1, e2⟩ | ⟨e1, e2⟩ | e1 | ⟨b, p, g, id, node, fds, o, e1, e2, hd, lv⟩
  · simp only [LState.step, NSpec.step, e1, e2]; exact ⟨trivial, G, r.clear⟩
  · simp only [LState.step, NSpec.step, e1, e2]; exact ⟨trivial, G, r.clear⟩
  · exact absurd e1 hok
  · simp only [LState.step, NSpec.step, e1, e2, lv.vw, lv.obj, lv.path, lv.machineNode]
    exact ⟨congrArg LOut.tags (tagsOf_congr node lv.eq), G, r.clear⟩

end rootSteps

theorem range_fst (s : LState) (h : Nat) : (s.step (.range h)).1 = s := by
  simp only [LState.step]
  repeat' split
  all_goals rfl

/-- the outcomes of decoding the sub-message `pb` into a nested result (at node `pth`, generation `g`) of a live
    object: nothing for an empty sub-message; a new live object; or a decode error, which leaves the forest as it was -/
inductive AttachOut (s : LState) (sp : NSpec) (G : GMap) (g : Nat) (pth : List Nat) (sub : LDec) (pb : Bytes) (c : Choice)
    (res : LState × LOut × Option (Option Nat)) : Prop
  | empty (hemp : pb.isEmpty = true) (hres : res = (s, .nil, some none))
  | live (s' : LState) (fds' : List FD) (nid : Nat) (G' : GMap) (hne : pb.isEmpty = false) (fr : Frame s s' c)
      (hdec : decodeInto sub.flat (cleanFds sub.flat.length) pb = .ok fds') (hres : res = (s', .ok, some (some nid)))
      (r' : Inv s' sp.clr G') (hg' : G' nid = some ⟨pb, pth, g⟩) (hG : ∀ x dx, G x = some dx → G' x = some dx)
  | err (s' : LState) (hne : pb.isEmpty = false) (fr : Frame s s' c)
      (hdec : decodeInto sub.flat (cleanFds sub.flat.length) pb = .err) (hres : res = (s', .err, none))
      (r' : Inv s' sp.clr G)

section nestedSteps
variable {s : LState} {sp : NSpec} {G : GMap}

theorem attach_spec (r : Inv s sp G) {id : Nat} {b : Bytes} {p : List Nat} {g t : Nat}
    {sub : LDec} (hd : G id = some ⟨b, p, g⟩) (hsub : decAt sp.root (p ++ [t]) = some sub) (pb : Bytes) (c : Choice)
    (hc : pb.isEmpty = false → ChoiceIn s (p ++ [t]) c) :
    AttachOut s sp G g (p ++ [t]) sub pb c (attach s id (p ++ [t]) pb c) := by
  by_cases hemp : pb.isEmpty = true
  · exact .empty hemp (attach_nil s id _ pb c hemp)
  · have hne : pb.isEmpty = false := by simpa using hemp
    have := decodeAt r.root r.w hsub hne (hc hne)
    unfold DecodeSpec at this
    cases hy : decodeInto sub.flat (cleanFds sub.flat.length) pb with
    | panic => rw [hy] at this; exact this.elim
    | err =>
      rw [hy] at this
      obtain ⟨s', h1, fr, w'⟩ := this
      exact .err s' hne fr hy (by simp only [attach, h1]) (r.grow fr.root fr.handles w' (fun _ _ h => h))
    | ok fds' =>
      rw [hy] at this
      obtain ⟨s1, nid, no, h1, fr, w1, f⟩ := this
      obtain ⟨o1, _, _, ho1, _⟩ := w1.live id _ hd
      have hne' : id ≠ nid := ne_of_some_none hd f.dead
      have fr2 := (fr.trans (frame_setObj s1 nid { no with skipClose := true } c
          fun y hy _ => (ne_of_some_none f.obj hy).symm)).trans
        (frame_setObj _ id { o1 with closers := o1.closers ++ [nid] } c
          fun y hy _ e => by rw [e] at hy; simp [hne', ho1] at hy)
      have hG := G.set_sub nid ⟨pb, p ++ [t], g⟩ f.dead
      exact .live _ fds' nid _ hne fr2 hy (by simp only [attach, h1, f.obj, ho1])
        (r.grow fr2.root fr2.handles (w1.attach pb hd ho1 f hsub hy) hG) (by simp) hG

/-- `NestedResult(tag)` on a live object: the answer of `nestedSelect` on a brand-new view of its bytes, or a
    nested result attached for the payload it selects -/
theorem nestedResult_spec (r : Inv s sp G) {id : Nat} {b : Bytes} {p : List Nat}
    {g : Nat} {node : LDec} {fds : List FD} {o : LObj} (hd : G id = some ⟨b, p, g⟩)
    (lv : LiveView s sp.root id b p node fds o) (tag : Nat) (c : Choice)
    (hc : ∀ sub pb, nestedSelect node fds tag = .payload sub pb → pb.isEmpty = false → ChoiceIn s (p ++ [tag]) c) :
    (∃ x, nestedSelect node fds tag = .ans x ∧ nestedResult s id tag c = (s, .ans x, none)) ∨
    ∃ sub pb, nestedSelect node fds tag = .payload sub pb ∧ decAt sp.root (p ++ [tag]) = some sub ∧
      AttachOut s sp G g (p ++ [tag]) sub pb c (nestedResult s id tag c) := by
  have hn : decAt s.root o.path = some node := lv.path ▸ lv.machineNode
  have ho := nestedSelect_congr node lv.eq tag
  cases hsel : nestedSelect node fds tag with
  | ans x => exact Or.inl ⟨x, rfl, nestedResult_ans c lv.obj hn (ho.trans hsel)⟩
  | payload sub pb =>
    have hsub : decAt sp.root (p ++ [tag]) = some sub := by
      rw [decAt_append, lv.specNode]; simp [nestedSelect_payload hsel]
    rw [nestedResult_payload c lv.obj hn (ho.trans hsel), lv.path]
    exact Or.inr ⟨sub, pb, rfl, hsub, attach_spec r hd hsub pb c (hc sub pb hsel)⟩

theorem step_nested (r : Inv s sp G) (ha : Anon s) (h : Nat) (tag : Int) (h' : Nat)
    (c : Choice) (hok : NOpOK s sp (.nested h tag h' c)) :
    StepRefines s sp (.nested h tag h' c) ∧ Anon (s.step (.nested h tag h' c)).1 := by
  obtain ⟨hnc, hch⟩ := hok
  unfold StepRefines
  rcases r.handle h with ⟨e1, e2⟩ | ⟨e1, e2⟩ | e1 | ⟨b, p, g, id, node, fds, o, e1, e2, hd, lv⟩
  · simp only [LState.step, NSpec.step, e1, e2]; exact ⟨⟨trivial, G, r.clear⟩, ha⟩
  · simp only [LState.step, NSpec.step, e1, e2]; exact ⟨⟨trivial, G, r.clear⟩, ha⟩
  · exact absurd e1 hnc
  · have hcok : ∀ sub pb, nestedSelect node fds tag.natAbs = .payload sub pb → pb.isEmpty = false →
        ChoiceOKN s (p ++ [tag.natAbs]) c :=
      fun sub pb hsel hne => hch (p ++ [tag.natAbs]) pb (by simp [NSpec.payload?, e1, lv.vw, hsel, hne])
    simp only [LState.step, NSpec.step, e1, e2, lv.vw]
    rcases nestedResult_spec r hd lv tag.natAbs c (fun sub pb a b => (choiceIn_of_ok (hcok sub pb a b)).1) with
      ⟨x, hsel, hnr⟩ | ⟨sub, pb, hsel, hsub, hout⟩
    · simp only [hsel, hnr]; exact ⟨⟨trivial, G, r.clear⟩, ha⟩
    · cases hout with
      | empty hemp hres =>
        simp only [hsel, hres, subOut, hemp, if_true]; exact ⟨⟨trivial, G, r.setNil h'⟩, ha⟩
      | live s' fds' nid G' hne fr hdec hres r' hg' _ =>
        simp only [hsel, hres, subOut, hne, Bool.false_eq_true, if_false, hdec]
        exact ⟨⟨trivial, G', r'.setLive h' nid hg'⟩, (ha.frame fr (choiceIn_of_ok (hcok sub pb hsel hne)).2 : Anon s')⟩
      | err s' hne fr hdec hres r' =>
        simp only [hsel, hres, subOut, hne, Bool.false_eq_true, if_false, hdec]
        exact ⟨⟨trivial, G, r'⟩, ha.frame fr (choiceIn_of_ok (hcok sub pb hsel hne)).2⟩

end nestedSteps

section paths
variable {s : LState} {sp : NSpec} {G : GMap}

/-- **multi-element paths**: the nested results `FieldData(path…)` allocates behind the client's back
    answer from the corresponding sub-message, and keep the forest -/
theorem accPath_spec (a : Acc) (fuel : Nat) {path : List Nat} {id : Nat} {b : Bytes} {p : List Nat} {g : Nat} {node : LDec}
    {fds : List FD} {o : LObj} (r : Inv s sp G) (ha : 2 ≤ path.length → Anon s) (hd : G id = some ⟨b, p, g⟩)
    (lv : LiveView s sp.root id b p node fds o) :
    (accPath fuel s (some id) path a).2 = lookupPath fuel node (some fds) path a ∧
      ∃ G', Inv (accPath fuel s (some id) path a).1 sp.clr G' ∧ (Anon s → Anon (accPath fuel s (some id) path a).1) := by
  induction fuel generalizing s sp G path id b p node fds o with
  | zero => simp only [accPath, lookupPath]; exact ⟨trivial, G, r.clear, fun h => h⟩
  | succ fuel ih =>
    have hn : decAt s.root o.path = some node := lv.path ▸ lv.machineNode
    match path, ha with
    | [], _ => simp only [accPath, lookupPath]; exact ⟨trivial, G, r.clear, fun h => h⟩
    | [tag], _ =>
      rw [accPath_succ fuel s id tag [] a o node lv.obj hn, lookupPath_single]
      simp only [List.isEmpty_nil, if_true]
      exact ⟨accessTag_congr node lv.eq tag a, G, r.clear, fun h => h⟩
    | tag :: t2 :: rest, ha =>
      have ha : Anon s := ha (by simp)
      rw [accPath_succ fuel s id tag (t2 :: rest) a o node lv.obj hn, lookupPath_cons2]
      simp only [List.isEmpty_cons, Bool.false_eq_true, if_false]
      rcases nestedResult_spec r hd lv tag (.new s.anon) (fun _ _ _ _ => ha s.anon (Nat.le_refl _)) with
        ⟨x, hsel, hnr⟩ | ⟨sub, pb, hsel, hsub, hout⟩
      · simp only [hsel, hnr]; exact ⟨trivial, G, r.bumpAnon, fun _ => ha.bump (Frame.refl s _)⟩
      · cases hout with
        | empty hemp hres =>
          simp only [hsel, hres, hemp, if_true, accPath_none fuel _ (t2 :: rest) a sub]
          exact ⟨trivial, G, r.bumpAnon, fun _ => ha.bump (Frame.refl s _)⟩
        | live s' fds' nid G' hne fr hdec hres r' hg' _ =>
          simp only [hsel, hres, hne, Bool.false_eq_true, if_false, hdec]
          obtain ⟨o', lv'⟩ := r'.bumpAnon.liveAt hg' hsub hdec
          obtain ⟨e, G'', r'', h⟩ := ih r'.bumpAnon (fun _ => ha.bump fr) hg' lv'
          exact ⟨e, G'', r'', fun _ => h (ha.bump fr)⟩
        | err s' hne fr hdec hres r' =>
          simp only [hsel, hres, hne, Bool.false_eq_true, if_false, hdec]
          exact ⟨trivial, G, r'.bumpAnon, fun _ => ha.bump fr⟩

/-- only a path of two or more elements makes the machine allocate objects of its own -/
theorem step_acc (r : Inv s sp G) (h : Nat) (path : List Int) (a : Acc)
    (ha : 2 ≤ path.length → Anon s) (hok : NOpOK s sp (.acc h path a)) :
    StepRefines s sp (.acc h path a) ∧ (Anon s → Anon (s.step (.acc h path a)).1) := by
  unfold StepRefines
  rcases r.handle h with ⟨e1, e2⟩ | ⟨e1, e2⟩ | e1 | ⟨b, p, g, id, node, fds, o, e1, e2, hd, lv⟩
  · simp only [LState.step, NSpec.step, e1, e2]; exact ⟨⟨trivial, G, r.clear⟩, fun h => h⟩
  · simp only [LState.step, NSpec.step, e1, e2, accPath_none (path.length + 1) s (path.map Int.natAbs) a sp.root]
    exact ⟨⟨trivial, G, r.clear⟩, fun h => h⟩
  · exact absurd e1 hok
  · obtain ⟨e, G', r', ha'⟩ := accPath_spec a (path.length + 1) (path := path.map Int.natAbs) r (by simpa using ha) hd lv
    simp only [LState.step, NSpec.step, e1, e2, lv.vw]
    exact ⟨⟨congrArg LOut.ans e, G', r'⟩, ha'⟩

end paths

section nestedsStep
variable {s : LState} {sp : NSpec} {G : GMap}

theorem nesteds_loop {sub : LDec} {p : List Nat} {t g id : Nat} {b0 : Bytes} (data : List Bytes) {hs : List Nat}
    {cs : List Choice} {acc : List Bool} (r : Inv s sp G) (ha : Anon s) (hjc : sp.justClosed = none)
    (hd : G id = some ⟨b0, p, g⟩) (hsub : decAt sp.root (p ++ [t]) = some sub) (hok : NestedsOK id (p ++ [t]) s data hs cs) :
    (nestedResults s id t data hs cs acc).2 = (specNesteds sub p t g sp data hs cs acc).2 ∧
      ∃ G', Inv (nestedResults s id t data hs cs acc).1 (specNesteds sub p t g sp data hs cs acc).1 G' ∧
        Anon (nestedResults s id t data hs cs acc).1 := by
  induction data generalizing s sp G hs cs acc with
  | nil => rw [nestedResults]; simp only [specNesteds]; exact ⟨trivial, G, r, ha⟩
  | cons b bs ih =>
    match hs, cs, hok with
    | [], _, _ => simp only [nestedResults, specNesteds]; exact ⟨trivial, G, r, ha⟩
    | h :: hs, [], _ => simp only [nestedResults, specNesteds]; exact ⟨trivial, G, r, ha⟩
    | h :: hs, c :: cs, ⟨hc, hnext⟩ =>
      obtain ⟨o, _, _, ho, l⟩ := r.w.live id _ hd
      have hp : o.path = p := l.hpath
      rw [nestedResults_cons s id t b bs h hs c cs acc o ho, hp]
      simp only [specNesteds]
      cases attach_spec r hd hsub b c (fun hne => (choiceIn_of_ok (hc hne)).1) with
      | empty hemp hres =>
        simp only [nestedsRound, hres] at hnext ⊢
        simp only [subOut, hemp, if_true]
        exact ih (setHandle_clr hjc h _ ▸ r.setNil h) ha hjc hd hsub hnext
      | live s' fds' nid G' hne fr hdec hres r' hg' hG =>
        have ha' : Anon s' := ha.frame fr (choiceIn_of_ok (hc hne)).2
        simp only [nestedsRound, hres] at hnext ⊢
        simp only [subOut, hne, Bool.false_eq_true, if_false, hdec]
        have r1 := r'.setLive h nid hg'
        rw [clr_of_none hjc, setHandle_clr hjc] at r1
        exact ih r1 ha' hjc (hG _ _ hd) hsub hnext
      | err s' hne fr hdec hres r' =>
        simp only [nestedsRound, hres, subOut, hne, Bool.false_eq_true, if_false, hdec]
        exact ⟨trivial, G, clr_of_none hjc ▸ r', ha.frame fr (choiceIn_of_ok (hc hne)).2⟩

theorem step_nesteds (r : Inv s sp G) (ha : Anon s) (h : Nat) (tag : Int)
    (hs : List Nat) (cs : List Choice) (hok : NOpOK s sp (.nesteds h tag hs cs)) :
    StepRefines s sp (.nesteds h tag hs cs) ∧ Anon (s.step (.nesteds h tag hs cs)).1 := by
  obtain ⟨hnc, hch⟩ := hok
  unfold StepRefines
  rcases r.handle h with ⟨e1, e2⟩ | ⟨e1, e2⟩ | e1 | ⟨b, p, g, id, node, fds, o, e1, e2, hd, lv⟩
  · simp only [LState.step, NSpec.step, e1, e2]; exact ⟨⟨trivial, G, r.clear⟩, ha⟩
  · simp only [LState.step, NSpec.step, e1, e2]; exact ⟨⟨trivial, G, r.clear⟩, ha⟩
  · exact absurd e1 hnc
  · have hdec := lv.path ▸ lv.machineNode
    simp only [LState.step, NSpec.step, e1, e2, lv.vw, lv.obj, hdec]
    -- the guards in front of the loop read the same on the object's field data and on the brand-new view
    by_cases hne : node.nested.isEmpty = true
    · simp only [hne, if_true]; exact ⟨⟨trivial, G, r.clear⟩, ha⟩
    · simp only [show node.nested.isEmpty = false by simpa using hne, Bool.false_eq_true, if_false]
      cases hsb : node.sub tag.natAbs with
      | none => exact ⟨⟨rfl, G, r.clear⟩, ha⟩
      | some sub =>
        cases hix : idxOf? node.flat tag.natAbs with
        | none => exact ⟨⟨rfl, G, r.clear⟩, ha⟩
        | some i =>
          dsimp only
          rcases lv.eq.get i with ⟨hx, hy⟩ | ⟨fa, fb, hx, hy, hab⟩
          · simp only [hx, hy]; exact ⟨⟨trivial, G, r.clear⟩, ha⟩
          · simp only [hx, hy, ← hab.1]
            by_cases hde : fa.data.isEmpty = true
            · simp only [hde, if_true]; exact ⟨⟨trivial, G, r.clear⟩, ha⟩
            · simp only [show fa.data.isEmpty = false by simpa using hde, Bool.false_eq_true, if_false]
              have hsub : decAt sp.clr.root (p ++ [tag.natAbs]) = some sub := by
                show decAt sp.root (p ++ [tag.natAbs]) = some sub
                rw [decAt_append, lv.specNode]; simp [hsb]
              have hk := hch id o node i fa e2 lv.obj hdec hix hx
              rw [lv.path] at hk
              obtain ⟨e, G', r', ha'⟩ :=
                nesteds_loop fa.data (acc := []) r.clear ha rfl hd hsub hk
              exact ⟨⟨e, G', r'⟩, ha'⟩

end nestedsStep

section refinement
variable {s : LState} {sp : NSpec} {G : GMap}

theorem nstep_refines (r : Inv s sp G) (ha : Anon s) (op : LOp) (hok : NOpOK s sp op) :
    StepRefines s sp op ∧ Anon (s.step op).1 := by
  cases op with
  | decode h input c =>
    obtain ⟨h1, h2⟩ := step_decode r h input c (fun hne => (choiceIn_of_ok (hok hne)).1)
    exact ⟨h1, h2 ha fun hne => (choiceIn_of_ok (hok hne)).2⟩
  | acc h path a => exact (step_acc r h path a (fun _ => ha) hok).imp id fun h => h ha
  | nested h tag h' c => exact step_nested r ha h tag h' c hok
  | nesteds h tag hs cs => exact step_nesteds r ha h tag hs cs hok
  | range h => exact ⟨step_range r h hok, (range_fst s h).symm ▸ ha⟩
  | close h => exact ⟨step_close r h hok, ha.close h⟩

theorem accPathC_spec (a : Acc) (fuel : Nat) {path : List Nat} {cs : List Choice} {id : Nat} {b : Bytes} {p : List Nat} {g : Nat}
    {node : LDec} {fds : List FD} {o : LObj} (r : Inv s sp G) (ha : Anon s) (hd : G id = some ⟨b, p, g⟩)
    (lv : LiveView s sp.root id b p node fds o) (hok : AccCOK fuel s (some id) path cs) :
    (accPathC fuel s (some id) path a cs).2 = lookupPath fuel node (some fds) path a ∧
      ∃ G', Inv (accPathC fuel s (some id) path a cs).1 sp.clr G' ∧ Anon (accPathC fuel s (some id) path a cs).1 := by
  induction fuel generalizing s sp G path cs id b p node fds o with
  | zero =>
    cases cs with
    | nil => rw [accPathC_nil]; exact (accPath_spec a 0 r (fun _ => ha) hd lv).imp (fun h => h) fun ⟨G', r', h⟩ => ⟨G', r', h ha⟩
    | cons c cs => simp only [accPathC, lookupPath]; exact ⟨trivial, G, r.clear, ha⟩
  | succ fuel ih =>
    match cs, path, hok with
    | [], _, _ =>
      rw [accPathC_nil]; exact (accPath_spec a _ r (fun _ => ha) hd lv).imp (fun h => h) fun ⟨G', r', h⟩ => ⟨G', r', h ha⟩
    | c :: cs, [], _ => simp only [accPathC, lookupPath]; exact ⟨trivial, G, r.clear, ha⟩
    | c :: cs, [tag], _ =>
      rw [accPathC_succ fuel s id tag [] a c cs o node lv.obj (lv.path ▸ lv.machineNode), lookupPath_single]
      simp only [List.isEmpty_nil, if_true]
      exact ⟨accessTag_congr node lv.eq tag a, G, r.clear, ha⟩
    | c :: cs, tag :: t2 :: rest, hok =>
      have hn : decAt s.root o.path = some node := lv.path ▸ lv.machineNode
      rw [accPathC_succ fuel s id tag (t2 :: rest) a c cs o node lv.obj hn, lookupPath_cons2]
      simp only [List.isEmpty_cons, Bool.false_eq_true, if_false]
      rw [AccCOK] at hok
      obtain ⟨hc, hnext⟩ := hok o node lv.obj hn
      rw [nestedSelect_congr node lv.eq, lv.path] at hc
      rcases nestedResult_spec r hd lv tag c (fun sub pb a b => (choiceIn_of_ok (hc sub pb a b)).1) with
        ⟨x, hsel, hnr⟩ | ⟨sub, pb, hsel, hsub, hout⟩
      · simp only [hsel, hnr]; exact ⟨trivial, G, r.clear, ha⟩
      · cases hout with
        | empty hemp hres =>
          simp only [hsel, hres, hemp, if_true, accPathC_none fuel _ (t2 :: rest) a cs sub]
          exact ⟨trivial, G, r.clear, ha⟩
        | live s' fds' nid G' hne fr hdec hres r' hg' _ =>
          have ha' := ha.frame fr (choiceIn_of_ok (hc sub pb hsel hne)).2
          simp only [hres] at hnext
          simp only [hsel, hres, hne, Bool.false_eq_true, if_false, hdec]
          obtain ⟨o', lv'⟩ := r'.liveAt hg' hsub hdec
          exact ih (sp := sp.clr) r' ha' hg' lv' hnext
        | err s' hne fr hdec hres r' =>
          simp only [hsel, hres, hne, Bool.false_eq_true, if_false, hdec]
          exact ⟨trivial, G, r', ha.frame fr (choiceIn_of_ok (hc sub pb hsel hne)).2⟩

theorem xstep_refines (r : Inv s sp G) (ha : Anon s) (op : XOp) (hok : XOpOK s sp op) :
    ((xstep s op).2 = (sp.xstep op).2 ∧ ∃ G', Inv (xstep s op).1 (sp.xstep op).1 G') ∧ Anon (xstep s op).1 := by
  cases op with
  | base op => exact nstep_refines r ha op hok
  | accC h path a cs =>
    obtain ⟨hnc, hch⟩ := hok
    rcases r.handle h with ⟨e1, e2⟩ | ⟨e1, e2⟩ | e1 | ⟨b, p, g, id, node, fds, o, e1, e2, hd, lv⟩
    · simp only [xstep, NSpec.xstep, NSpec.step, e1, e2]; exact ⟨⟨trivial, G, r.clear⟩, ha⟩
    · simp only [xstep, NSpec.xstep, NSpec.step, e1, e2,
        accPathC_none (path.length + 1) s (path.map Int.natAbs) a cs sp.root]
      exact ⟨⟨trivial, G, r.clear⟩, ha⟩
    · exact absurd e1 hnc
    · obtain ⟨e, G', r', ha'⟩ := accPathC_spec a (path.length + 1) r ha hd lv (hch _ e2)
      simp only [xstep, NSpec.xstep, NSpec.step, e1, e2, lv.vw]
      exact ⟨⟨congrArg LOut.ans e, G', r'⟩, ha'⟩

end refinement

theorem lookupPath_ne_panic (a : Acc) : ∀ (fuel : Nat) (dec : LDec) (ofds : Option (List FD)) (path : List Nat),
    (∀ fds, ofds = some fds → fds.length = dec.flat.length) → lookupPath fuel dec ofds path a ≠ .panic
  | 0, _, _, _, _ => by simp [lookupPath]
  | _ + 1, _, _, [], _ => by simp [lookupPath]
  | _ + 1, _, none, _ :: _, _ => by simp [lookupPath]
  | fuel + 1, dec, some fds, [tag], hl => by
    rw [lookupPath_single]; exact accessTag_ne_panic dec fds tag a (hl fds rfl)
  | fuel + 1, dec, some fds, tag :: t2 :: rest, hl => by
    rw [lookupPath_cons2]
    have := nestedSelect_ne_panic dec fds tag (hl fds rfl)
    cases hsel : nestedSelect dec fds tag with
    | ans x => intro e; simp only [] at e; rw [hsel, e] at this; exact this rfl
    | payload sub b =>
      simp only []
      split
      · exact lookupPath_ne_panic a fuel sub none _ (by intro _ h; cases h)
      · have ht := clean_total sub b
        cases hd : decodeInto sub.flat (cleanFds sub.flat.length) b with
        | ok fds' =>
          simp only []
          exact lookupPath_ne_panic a fuel sub (some fds') _ (by intro f h; injection h with h; subst h; exact ht.2 _ hd)
        | err => simp
        | panic => exact absurd hd ht.1

theorem subOut_range (sub : LDec) (pb : Bytes) : subOut sub pb = .nil ∨ subOut sub pb = .ok ∨ subOut sub pb = .err := by
  unfold subOut
  split
  · exact Or.inl rfl
  · cases hd : decodeInto sub.flat (cleanFds sub.flat.length) pb with
    | ok _ => exact Or.inr (Or.inl rfl)
    | err => exact Or.inr (Or.inr rfl)
    | panic => exact absurd hd (clean_total sub pb).1

theorem specNesteds_ne_panic (sub : LDec) (p : List Nat) (t g : Nat) : ∀ (data : List Bytes) (hs : List Nat)
    (cs : List Choice) (acc : List Bool) (sp : NSpec),
    (specNesteds sub p t g sp data hs cs acc).2 ≠ .panic ∧ (specNesteds sub p t g sp data hs cs acc).2 ≠ .ans .panic
  | [], _, _, _, _ => by simp [specNesteds]
  | _ :: _, [], _, _, _ => by simp [specNesteds]
  | _ :: _, _ :: _, [], _, _ => by simp [specNesteds]
  | b :: bs, h :: hs, c :: cs, acc, sp => by
    rcases subOut_range sub b with e | e | e <;> simp only [specNesteds, e]
    · exact specNesteds_ne_panic sub p t g bs hs cs _ _
    · exact specNesteds_ne_panic sub p t g bs hs cs _ _
    · simp

/-- **the specification never answers with a panic** while the invariant holds: not a decoder pass (root or
    nested), not an accessor on a path of any length, not `NestedResult(s)`, not `Close` -/
theorem nspec_no_panic {s : LState} {sp : NSpec} {G : GMap} (r : Inv s sp G) (op : LOp) :
    (sp.step op).2 ≠ .panic ∧ (sp.step op).2 ≠ .ans .panic := by
  have hans : ∀ {x : Ans}, x ≠ .panic → LOut.ans x ≠ .panic ∧ LOut.ans x ≠ .ans .panic :=
    fun h => ⟨by simp, fun e => h (LOut.ans.inj e)⟩
  cases op with
  | decode h input c =>
    simp only [NSpec.step, fresh]
    split
    · simp
    · cases hd : decodeInto sp.root.flat (cleanFds sp.root.flat.length) input with
      | ok _ => simp
      | err => simp
      | panic => exact absurd hd (clean_total sp.root input).1
  | acc h path a =>
    rcases r.handle h with ⟨e1, _⟩ | ⟨e1, _⟩ | e1 | ⟨b, p, g, id, node, fds, o, e1, _, _, lv⟩ <;> simp only [NSpec.step, e1]
    · simp
    · exact hans (lookupPath_ne_panic a _ sp.root none _ (by intro _ h; cases h))
    · simp
    · simp only [lv.vw]
      exact hans (lookupPath_ne_panic a _ node (some fds) _ (by intro f h; cases h; exact lv.len))
  | range h =>
    rcases r.handle h with ⟨e1, _⟩ | ⟨e1, _⟩ | e1 | ⟨b, p, g, id, node, fds, o, e1, _, _, lv⟩ <;> simp only [NSpec.step, e1]
    · simp
    · simp
    · simp
    · simp [lv.vw]
  | close h =>
    simp only [NSpec.step]
    split
    · simp
    · simp
    · split <;> simp
    · simp
  | nested h tag h' c =>
    rcases r.handle h with ⟨e1, _⟩ | ⟨e1, _⟩ | e1 | ⟨b, p, g, id, node, fds, o, e1, _, _, lv⟩ <;> simp only [NSpec.step, e1]
    · simp
    · simp
    · simp
    · simp only [lv.vw]
      have hns := nestedSelect_ne_panic node fds tag.natAbs lv.len
      cases hsel : nestedSelect node fds tag.natAbs with
      | ans x => exact hans (fun e => hns (by rw [hsel, e]))
      | payload sub pb => rcases subOut_range sub pb with e | e | e <;> simp [e]
  | nesteds h tag hs cs =>
    rcases r.handle h with ⟨e1, _⟩ | ⟨e1, _⟩ | e1 | ⟨b, p, g, id, node, fds, o, e1, _, _, lv⟩ <;> simp only [NSpec.step, e1]
    · simp
    · simp
    · simp
    · simp only [lv.vw]
      split
      · simp
      · split
        · simp
        · simp
        · rename_i i _ hi
          rw [List.getElem?_eq_getElem (by rw [lv.len]; exact idxOf?_lt hi)]
          dsimp only
          split
          · simp
          · exact specNesteds_ne_panic _ _ _ _ _ _ _ _ _

theorem xhistory_refines_from (ops : List XOp) : ∀ (s : LState) (sp : NSpec) (G : GMap), Inv s sp G → Anon s → XHistOK s sp ops →
    xoutputs s ops = NSpec.xoutputs sp ops ∧ ∀ out ∈ xoutputs s ops, out ≠ .panic ∧ out ≠ .ans .panic := by
  induction ops with
  | nil => intro s sp G _ _ _; exact ⟨rfl, by simp [xoutputs]⟩
  | cons op ops ih =>
    intro s sp G r ha hok
    obtain ⟨⟨h1, G', r'⟩, ha'⟩ := xstep_refines r ha op hok.1
    obtain ⟨i1, i2⟩ := ih _ _ G' r' ha' hok.2
    refine ⟨by simp only [xoutputs, NSpec.xoutputs, h1, i1], fun out ho => ?_⟩
    rcases List.mem_cons.mp ho with rfl | ho
    · rw [h1]
      cases op with
      | base op => exact nspec_no_panic r op
      | accC h path a cs => exact nspec_no_panic r (.acc h path a)
    · exact i2 out ho

/-- **C14 with nested results, including the pool choices made behind multi-element `FieldData` paths**:
    same outputs as the pool-free specification, and no panic. -/
theorem nested_history_refines_x (root : LDec) (pooled : Bool) (ops : List XOp)
    (hok : XHistOK (LState.init root pooled) (NSpec.init root) ops) :
    xoutputs (LState.init root pooled) ops = NSpec.xoutputs (NSpec.init root) ops ∧
      ∀ out ∈ xoutputs (LState.init root pooled) ops, out ≠ .panic ∧ out ≠ .ans .panic :=
  xhistory_refines_from ops _ _ _ (Inv.init root pooled) (Anon.init root pooled) hok

/-- **C14, whole histories with nested results.**  For every decoder definition, pooled or not, every
    history of Decode / accessor (paths of any length) / NestedResult / NestedResults / Range / Close
    operations that keeps to the API contract — no use of a result after its `Close`, nor of a nested
    result after the `Close` of the root result it descends from — and every choice every pool makes at
    every decode (the root decoder's pool and each nested decoder's pool: a brand-new object or ANY object
    currently pooled there), the observable outputs are those of the pool-free specification `NSpec`, in
    which every answer is computed from the handle's own (sub-)message bytes decoded into a brand-new object. -/
theorem nested_history_refines (root : LDec) (pooled : Bool) (ops : List LOp)
    (hok : NHistOK (LState.init root pooled) (NSpec.init root) ops) :
    outputs (LState.init root pooled) ops = NSpec.outputs (NSpec.init root) ops := by
  obtain ⟨e1, e2, e3⟩ := base_history ops (LState.init root pooled) (NSpec.init root)
  rw [← e1, ← e2]
  exact (nested_history_refines_x root pooled _ (e3 hok)).1

/-- **no operation of a history with nested results panics**, whatever the pools hand out -/
theorem nested_history_no_panic (root : LDec) (pooled : Bool) (ops : List LOp)
    (hok : NHistOK (LState.init root pooled) (NSpec.init root) ops) :
    ∀ out ∈ outputs (LState.init root pooled) ops, out ≠ .panic ∧ out ≠ .ans .panic := by
  obtain ⟨e1, _, e3⟩ := base_history ops (LState.init root pooled) (NSpec.init root)
  rw [← e1]
  exact (nested_history_refines_x root pooled _ (e3 hok)).2

end Csproto.C14N
