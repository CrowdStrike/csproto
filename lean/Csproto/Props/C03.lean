import Csproto.Proofs.Dec
/-
  C03 — The decoder is total and bounds-safe on arbitrary bytes.

  Quantification: every byte string `d.p`, every decoder state with the cursor inside the buffer,
  every operation (all exported `Decoder` methods + the harness-only `resync`), every operation
  sequence.  `DecodeNested` is parametrised by an arbitrary nested unmarshaler that may fail.
-/
namespace Csproto.C03
open Csproto

/-- what one call may do: outcome is never a panic, the cursor stays inside the (unchanged)
    buffer, and the allocation request is at most `2·len + 1` cells -/
structure StepSafe (d : Dec) (r : Dec × DecOut × Nat) : Prop where
  noPanic : r.2.1 ≠ .panic
  inv : r.1.Inv
  sameBuf : r.1.p = d.p
  alloc : r.2.2 ≤ 2 * d.len + 1

theorem StepSafe.err {d : Dec} (hi : d.Inv) : StepSafe d (d, .err, 0) := ⟨nofun, hi, rfl, Nat.zero_le _⟩

theorem StepSafe.noAlloc {d : Dec} {r : Dec × DecOut} (h : r.2 ≠ .panic ∧ r.1.Inv ∧ r.1.p = d.p) :
    StepSafe d (withAlloc r 0) := ⟨h.1, h.2.1, h.2.2, Nat.zero_le _⟩

theorem StepSafe.scalar {α} (d : Dec) (hi : d.Inv) (elem : Bytes → Res (α × Nat)) (mk : α → Item) (he : ElemOK elem) :
    StepSafe d (withAlloc (d.scalar elem mk) 0) := .noAlloc (d.scalar_safe hi elem mk he)

theorem step_scalar_total {α} {op : DecOp} (elem : Bytes → Res (α × Nat)) (mk : α → Item)
    (hop : ∀ d : Dec, d.step op = withAlloc (d.scalar elem mk) 0) (he : ElemOK elem) (d : Dec) (hi : d.Inv) :
    d.step op = (d, .err, 0) ∨ ∃ d2 v, d2.Inv ∧ d.step op = (d2, .ok (mk v), 0) := by
  rw [hop]
  rcases d.scalar_total hi elem mk he with h | ⟨v, n, hn, h⟩ <;> rw [h]
  · exact .inl rfl
  · exact .inr ⟨{ d with off := d.off + n }, v, hn, rfl⟩

theorem packed_safe {α} (d : Dec) (hi : d.Inv) (elem : Bytes → Res (α × Nat)) (mk : List α → Item)
    (prealloc : Option Nat) (he : ElemOK elem) :
    StepSafe d (d.packed elem mk prealloc) := by
  unfold Dec.packed
  by_cases h : d.off ≥ d.len
  · rw [if_pos h]; exact .err hi
  · rw [if_neg h, sliceFrom_ok hi]
    dsimp only
    have hv := elVarint_ok (d.p.drop d.off)
    cases hel : elVarint (d.p.drop d.off) with
    | err => exact .err hi
    | panic => exact absurd hel hv.1
    | ok x =>
      obtain ⟨l, n⟩ := x
      have hn := hv.2 l n hel
      rw [List.length_drop] at hn
      have hoff1 : d.off + n ≤ d.p.length := Nat.add_le_of_le_sub' hi hn
      rcases hr : packedLoop elem d.p l (d.len + 1) 0 (d.off + n) [] with ⟨off2, r⟩
      obtain ⟨hnp, _, hle, hcells⟩ := packedLoop_total elem he d.p l _ _ _ _ hoff1 off2 r hr
      have hd : d.len ≤ 2 * d.len + 1 := by omega
      -- cells appended ≤ bytes consumed by the loop ≤ what is in the buffer
      have hvs : ∀ vs, r = .ok vs → vs.length ≤ d.len - (d.off + n) := fun vs h =>
        Nat.le_sub_of_add_le (Nat.le_trans (hcells vs h).1 (Nat.le_trans (Nat.le_of_eq (Nat.zero_add off2)) hle))
      have hsub : d.len - (d.off + n) ≤ 2 * d.len + 1 := Nat.le_trans (Nat.sub_le ..) hd
      cases prealloc with
      | none =>
        simp only [hr]
        cases r with
        | ok vs => exact ⟨nofun, hle, rfl, Nat.le_trans (hvs vs rfl) hsub⟩
        | err => exact ⟨nofun, hle, rfl, Nat.le_trans (Nat.sub_le ..) (Nat.le_trans hle hd)⟩
        | panic => exact absurd rfl hnp
      | some k =>
        dsimp only
        by_cases hfit : l > d.len - (d.off + n)
        · rw [if_pos hfit]; exact ⟨nofun, hoff1, rfl, Nat.zero_le _⟩
        · rw [if_neg hfit]
          have hdiv : l / k ≤ d.len - (d.off + n) := Nat.le_trans (Nat.div_le_self l k) (Nat.le_of_not_gt hfit)
          simp only [hr]
          cases r with
          | ok vs =>
            have := hvs vs rfl
            exact ⟨nofun, hle, rfl, show l / k + vs.length ≤ 2 * d.len + 1 by omega⟩
          | err => exact ⟨nofun, hle, rfl, Nat.le_trans hdiv hsub⟩
          | panic => exact absurd rfl hnp

theorem lenPrefix_total (d : Dec) (hi : d.Inv) :
    d.lenPrefix = .err ∨ ∃ l n, decodeVarint (d.p.drop d.off) = .ok (l, n) ∧ 0 < n ∧ d.off + n + l ≤ d.len ∧
      d.lenPrefix = .ok (d.off + n, l) := by
  unfold Dec.lenPrefix
  by_cases h : d.off ≥ d.len
  · exact .inl (if_pos h)
  · rw [if_neg h, sliceFrom_ok hi]
    dsimp only
    have hv := decodeVarint_ok (d.p.drop d.off)
    cases hel : decodeVarint (d.p.drop d.off) with
    | err => exact .inl rfl
    | panic => exact absurd hel hv.1
    | ok x =>
      obtain ⟨l, n⟩ := x
      dsimp only
      by_cases h1 : n = 0
      · exact .inl (if_pos h1)
      · by_cases h2 : l > maxFieldLen
        · exact .inl (by rw [if_neg h1, if_pos h2])
        · by_cases h3 : d.off + n + l > d.len
          · exact .inl (by rw [if_neg h1, if_neg h2, if_pos h3])
          · exact .inr ⟨l, n, rfl, Nat.pos_of_ne_zero h1, Nat.le_of_not_gt h3, by rw [if_neg h1, if_neg h2, if_neg h3]⟩

/-- header of a length-delimited field: never panics; on success the payload lies inside the buffer
    (so a declared length that exceeds the remaining input is always an error) -/
theorem lenPrefix_safe (d : Dec) (hi : d.Inv) :
    d.lenPrefix ≠ .panic ∧ ∀ start l, d.lenPrefix = .ok (start, l) → d.off < start ∧ start + l ≤ d.len := by
  rcases lenPrefix_total d hi with h | ⟨l, n, _, hn, hle, h⟩
  · rw [h]
    exact ⟨nofun, nofun⟩
  · rw [h]
    refine ⟨nofun, fun start l' he => ?_⟩
    cases he
    exact ⟨Nat.lt_add_of_pos_right hn, hle⟩

/-- **a declared length that exceeds the remaining input is reported as an error** (length-delimited
    readers: `DecodeBytes`, `DecodeString`, `DecodeNested`) -/
theorem declared_length_beyond_input_is_error (d : Dec) (hi : d.Inv) (l n : Nat)
    (hdec : decodeVarint (d.p.drop d.off) = .ok (l, n)) (hbig : l > d.len - (d.off + n)) :
    d.lenPrefix = .err := by
  rcases lenPrefix_total d hi with h | ⟨l', n', hdec', _, hle, _⟩
  · exact h
  · rw [hdec] at hdec'
    cases hdec'
    omega

theorem bytesOp_total (d : Dec) (hi : d.Inv) :
    d.bytesOp = (d, .err) ∨ ∃ start l, start + l ≤ d.len ∧
      d.bytesOp = ({ d with off := start + l }, .ok (.bytes ((d.p.drop start).take l))) := by
  unfold Dec.bytesOp
  rcases lenPrefix_total d hi with h | ⟨l, n, _, _, hle, h⟩ <;> rw [h]
  · exact .inl rfl
  · exact .inr ⟨_, _, hle, rfl⟩

theorem step_bytes_total (d : Dec) (hi : d.Inv) :
    d.step .bytes = (d, .err, 0) ∨ ∃ d2 b, d2.Inv ∧ d.step .bytes = (d2, .ok (.bytes b), 0) := by
  show withAlloc d.bytesOp 0 = _ ∨ ∃ d2 b, _ ∧ withAlloc d.bytesOp 0 = _
  rcases bytesOp_total d hi with h | ⟨s, l, hle, h⟩ <;> rw [h]
  · exact .inl rfl
  · exact .inr ⟨{ d with off := s + l }, _, hle, rfl⟩

theorem bytesOp_safe (d : Dec) (hi : d.Inv) :
    d.bytesOp.2 ≠ .panic ∧ d.bytesOp.1.Inv ∧ d.bytesOp.1.p = d.p ∧
    ∀ b, d.bytesOp.2 = .ok (.bytes b) → b.length ≤ d.len := by
  rcases bytesOp_total d hi with h | ⟨start, l, hle, h⟩ <;> rw [h]
  · exact ⟨nofun, hi, rfl, nofun⟩
  · refine ⟨nofun, hle, rfl, fun b hb => ?_⟩
    cases hb
    rw [List.length_take]
    omega

theorem ne_ite {α} {c : Prop} [Decidable c] {a b x : α} (ha : a ≠ x) (hb : b ≠ x) : (if c then a else b) ≠ x := by
  split <;> assumption

theorem skipCheck_safe (d : Dec) (tag wt bof sz : Nat) (hb : bof ≤ d.len) : d.skipCheck tag wt bof sz ≠ .panic := by
  have hv := (decodeVarint_ok (d.p.drop bof)).1
  unfold Dec.skipCheck
  rw [sliceFrom_ok hb]
  dsimp only
  refine ne_ite nofun ?_
  rcases h : decodeVarint (d.p.drop bof) with ⟨v, n⟩ | _ | _
  · exact ne_ite nofun (ne_ite nofun nofun)
  · nofun
  · exact absurd h hv

theorem skipLen_safe (d : Dec) (hi : d.Inv) (wt : Nat) : d.skipLen wt ≠ .panic := by
  have hv := (decodeVarint_ok (d.p.drop d.off)).1
  unfold Dec.skipLen
  rw [sliceFrom_ok hi]
  dsimp only
  refine ne_ite ?_ (ne_ite nofun (ne_ite ?_ (ne_ite nofun nofun)))
  · rcases h : decodeVarint (d.p.drop d.off) with x | _ | _
    · exact (nofun : Res.ok x.2 ≠ .panic)
    · exact (nofun : (Res.err : Res Nat) ≠ .panic)
    · exact absurd h hv
  · rcases h : decodeVarint (d.p.drop d.off) with ⟨l, n⟩ | _ | _
    · exact ne_ite nofun (ne_ite nofun nofun)
    · nofun
    · exact absurd h hv

theorem skip_total (d : Dec) (hi : d.Inv) (tag wt : Nat) :
    d.skip tag wt = (d, .err) ∨ ∃ k b, d.off + k ≤ d.len ∧ d.skip tag wt = ({ d with off := d.off + k }, .ok (.bytes b)) := by
  unfold Dec.skip
  by_cases h : d.off ≥ d.len
  · exact .inl (if_pos h)
  · rw [if_neg h]
    dsimp only
    have hb : (if d.ke = d.off ∧ d.ke > d.ks then d.ks else d.off - sizeOfTagKey tag) ≤ d.len := by
      unfold Dec.Inv at hi; split <;> omega
    have h1 := skipCheck_safe d tag wt _ (sizeOfTagKey tag) hb
    cases hc : d.skipCheck tag wt (if d.ke = d.off ∧ d.ke > d.ks then d.ks else d.off - sizeOfTagKey tag) (sizeOfTagKey tag) with
    | err => exact .inl rfl
    | panic => exact absurd hc h1
    | ok u =>
      have h2 := skipLen_safe d hi wt
      dsimp only
      cases hl : d.skipLen wt with
      | err => exact .inl rfl
      | panic => exact absurd hl h2
      | ok k =>
        dsimp only
        by_cases hfit : d.off + k > d.len
        · exact .inl (if_pos hfit)
        · exact .inr ⟨k, _, Nat.le_of_not_gt hfit, if_neg hfit⟩

theorem step_skip_total (d : Dec) (hi : d.Inv) (tag wt : Nat) :
    d.step (.skip tag wt) = (d, .err, 0) ∨ ∃ d2 b, d2.Inv ∧ d.step (.skip tag wt) = (d2, .ok (.bytes b), 0) := by
  show withAlloc (d.skip tag wt) 0 = _ ∨ ∃ d2 b, _ ∧ withAlloc (d.skip tag wt) 0 = _
  rcases skip_total d hi tag wt with h | ⟨k, b, hle, h⟩ <;> rw [h]
  · exact .inl rfl
  · exact .inr ⟨{ d with off := d.off + k }, b, hle, rfl⟩

theorem skip_safe (d : Dec) (hi : d.Inv) (tag wt : Nat) :
    (d.skip tag wt).2 ≠ .panic ∧ (d.skip tag wt).1.Inv ∧ (d.skip tag wt).1.p = d.p := by
  rcases skip_total d hi tag wt with h | ⟨k, b, hle, h⟩ <;> rw [h]
  · exact ⟨nofun, hi, rfl⟩
  · exact ⟨nofun, hle, rfl⟩

theorem seek_safe (d : Dec) (hi : d.Inv) (o w : Int) :
    (d.seek o w).2 ≠ .panic ∧ (d.seek o w).1.Inv ∧ (d.seek o w).1.p = d.p := by
  unfold Dec.seek
  dsimp only
  split
  · exact ⟨nofun, hi, rfl⟩
  · rename_i q _
    by_cases hq : q < 0 ∨ q > d.len
    · rw [if_pos hq]; exact ⟨nofun, hi, rfl⟩
    · rw [if_neg hq]
      refine ⟨nofun, ?_, rfl⟩
      show q.toNat ≤ d.len
      omega

/-- **Every call is safe**: for every buffer, every in-range cursor and every operation (with any
    arguments, any nested-unmarshaler behaviour), the call does not panic, leaves the cursor within
    `[0, len]`, does not touch the buffer, and requests at most `2·len + 1` cells. -/
theorem step_safe (d : Dec) (hi : d.Inv) (op : DecOp) : StepSafe d (d.step op) := by
  cases op with
  | tag =>
    rcases d.tag_total hi with h | ⟨v, n, hle, h⟩ <;> rw [h]
    · exact .err hi
    · exact ⟨nofun, hle, rfl, Nat.zero_le _⟩
  | bool => exact .scalar d hi _ _ elBool_ok
  | bytes =>
    have h := bytesOp_safe d hi
    exact .noAlloc ⟨h.1, h.2.1, h.2.2.1⟩
  | string =>
    rw [Dec.step_string]
    split
    · exact .err hi
    · rcases bytesOp_total d hi with h | ⟨start, l, hle, h⟩ <;> rw [h]
      · exact .err hi
      · refine ⟨nofun, hle, rfl, ?_⟩
        dsimp only
        split
        · exact Nat.zero_le _
        · rw [List.length_take]; omega
  | uint32 => exact .scalar d hi _ _ elUint32_ok
  | uint64 => exact .scalar d hi _ _ elVarint_ok
  | int32 => exact .scalar d hi _ _ elInt32_ok
  | int64 => exact .scalar d hi _ _ elInt64_ok
  | sint32 => exact .scalar d hi _ _ elSint32_ok
  | sint64 => exact .scalar d hi _ _ elSint64_ok
  | fixed32 => exact .scalar d hi _ _ elFixed32_ok
  | fixed64 => exact .scalar d hi _ _ elFixed64_ok
  | float32 => exact .scalar d hi _ _ elFloat32_ok
  | float64 => exact .scalar d hi _ _ elFloat64_ok
  | packedBool => exact packed_safe d hi _ _ none elBool_ok
  | packedInt32 => exact packed_safe d hi _ _ none elInt32_ok
  | packedInt64 => exact packed_safe d hi _ _ none elInt64_ok
  | packedUint32 => exact packed_safe d hi _ _ none elUint32_ok
  | packedUint64 => exact packed_safe d hi _ _ none elVarint_ok
  | packedSint32 => exact packed_safe d hi _ _ none elSint32_ok
  | packedSint64 => exact packed_safe d hi _ _ none elSint64_ok
  | packedFixed32 => exact packed_safe d hi _ _ none elFixed32_ok
  | packedFixed64 => exact packed_safe d hi _ _ none elFixed64_ok
  | packedFloat32 => exact packed_safe d hi _ _ (some 4) elFloat32_ok
  | packedFloat64 => exact packed_safe d hi _ _ none elFloat64_ok
  | nested succeeds =>
    rw [Dec.step_nested]
    rcases lenPrefix_total d hi with h | ⟨l, n, _, _, hle, h⟩ <;> rw [h]
    · exact .err hi
    · dsimp only
      split
      · exact ⟨nofun, hle, rfl, Nat.zero_le _⟩
      · exact ⟨nofun, hi, rfl, Nat.zero_le _⟩
  | skip tag wt => exact .noAlloc (skip_safe d hi tag wt)
  | seek o w => exact .noAlloc (seek_safe d hi o w)
  | reset => exact ⟨nofun, Nat.zero_le _, rfl, Nat.zero_le _⟩
  | setMode | more | offset => exact ⟨nofun, hi, rfl, Nat.zero_le _⟩
  | resync n =>
    show StepSafe d (if n ≤ d.len then { d with off := n } else d, .ok .unit, 0)
    split
    · rename_i h; exact ⟨nofun, h, rfl, Nat.zero_le _⟩
    · exact ⟨nofun, hi, rfl, Nat.zero_le _⟩

def AllSafe (len : Nat) (rs : List (DecOut × Nat)) : Prop := ∀ r ∈ rs, r.1 ≠ .panic ∧ r.2 ≤ 2 * len + 1

/-- **Every history is safe**: for every byte string, every starting cursor in range and every
    sequence of decoder calls (including `resync` to any position after a failed call, mode switches,
    `Seek`, `Reset`), no call panics, the cursor is in `[0, len]` after every call, and every
    allocation request is linear in the input length. -/
theorem run_safe (ops : List DecOp) : ∀ (d : Dec), d.Inv →
    AllSafe d.len (d.run ops).2 ∧ (d.run ops).1.Inv ∧ (d.run ops).1.p = d.p := by
  induction ops with
  | nil => intro d hi; exact ⟨by simp [Dec.run, AllSafe], hi, rfl⟩
  | cons op ops ih =>
    intro d hi
    have hs := step_safe d hi op
    simp only [Dec.run]
    generalize hr : d.step op = r at hs
    obtain ⟨d1, o, a⟩ := r
    have hlen : d1.len = d.len := by unfold Dec.len; rw [hs.sameBuf]
    have := ih d1 hs.inv
    rw [hlen] at this
    refine ⟨?_, this.2.1, this.2.2.trans hs.sameBuf⟩
    intro r hr'
    simp at hr'
    rcases hr' with rfl | hr'
    · exact ⟨hs.noPanic, hs.alloc⟩
    · exact this.1 r hr'

/-- the decoder as created by `NewDecoder` satisfies the invariant -/
theorem new_inv (p : Bytes) : (Dec.new p).Inv := by simp [Dec.new, Dec.Inv]

/-! ## non-vacuity: a concrete malformed input on which calls fail without panicking -/
example : ((Dec.new [0x0a, 0xff, 0xff, 0xff, 0xff, 0x0f]).run [.tag, .packedFloat32]).2.map (·.1)
    = [.ok (.tag 1 2), .err] := by decide

end Csproto.C03
