import Csproto.Proofs.Enc
import Csproto.Props.C03
/-
  C19 — Nested-message bridging in the hand-written codec is exact.

  The nested message is abstract: on the write side `how` says which of the three paths
  `EncodeNested` takes (0 = the message marshals itself into the supplied buffer (`MarshalerTo`),
  1 = it marshals itself to a fresh slice (`Marshaler`), 2 = only an underlying runtime knows it),
  `body` is what `csproto.Marshal(m)` returns (`none` = error) and `sz` what `csproto.Size(m)`
  returns.  On the read side the nested unmarshaler is an arbitrary function that may fail.
-/
namespace Csproto.C19
open Csproto

/-- the field `EncodeNested` must write: key, length, exactly the marshaled bytes -/
def nestedWire (tag : Nat) (b : Bytes) : Bytes := encTag tag wtLen ++ encVarint b.length ++ b

/-- the `MarshalerTo` path: key and `Size(m)`, then the message writes itself, then `offset += Size(m)` -/
theorem step_marshalerTo (e : Enc) (tag sz : Nat) (body : Option Bytes) :
    e.step (.nested tag sz 0 body) =
      match (e.store (encTag tag wtLen) >>= fun e => e.store (encVarint sz)) with
      | .ok e1 =>
        match body with
        | none => .err e1
        | some b =>
          match e1.store b with
          | .ok e2 => .ok { e2 with off := e1.off + sz }
          | _ => .panic
      | _ => .panic := rfl

/-- **Write side, all three paths.** With enough room, `EncodeNested` appends exactly
    key ++ varint(len b) ++ b, where `b` is what `csproto.Marshal(m)` returns, and advances the
    cursor by precisely that amount.  On the `MarshalerTo` path this needs the message's own
    contract `Size(m) = len(Marshal(m))` (C04 for generated code); the other two paths need nothing. -/
theorem encodeNested_exact (e : Enc) (tag sz how : Nat) (b : Bytes)
    (hsz : how = 0 → sz = b.length) (hroom : e.Room (nestedWire tag b).length) :
    ∃ e', e.step (.nested tag sz how (some b)) = .ok e' ∧ Enc.Appended e e' (nestedWire tag b) := by
  by_cases hh : how = 0
  · subst hh
    cases hsz rfl
    rw [nestedWire, List.length_append, List.length_append] at hroom
    obtain ⟨e2, h2, a2⟩ := e.store2_room (encTag tag wtLen) (encVarint b.length) (hroom.mono (Nat.le_add_right ..))
    obtain ⟨e3, h3, a3⟩ := e2.store_room b (a2.room (by rw [List.length_append]; exact hroom))
    refine ⟨{ e3 with off := e2.off + b.length }, ?_, ?_⟩
    · rw [step_marshalerTo, h2]
      dsimp only
      rw [h3]
    · rw [← a3.off]
      exact a2.trans a3
  · -- the other two paths marshal first and then are `EncodeBytes(tag, b)`
    have : e.step (.nested tag sz how (some b)) = e.step (.bytes tag b) := by
      show (if how = 0 then _ else _) = _
      rw [if_neg hh]
      rfl
    rw [this]
    exact e.step_room (.bytes tag b) rfl hroom

/-- **an error from the nested message propagates** (never a panic, never silently dropped),
    given room for the header on the `MarshalerTo` path -/
theorem encodeNested_error (e : Enc) (tag sz how : Nat)
    (hroom : how = 0 → e.Room (encTag tag wtLen ++ encVarint sz).length) :
    ∃ e', e.step (.nested tag sz how none) = .err e' := by
  by_cases hh : how = 0
  · subst hh
    obtain ⟨e2, h2, _⟩ := e.store2_room (encTag tag wtLen) (encVarint sz) (List.length_append ▸ hroom rfl)
    exact ⟨e2, by rw [step_marshalerTo, h2]⟩
  · exact ⟨e, by show (if how = 0 then _ else _) = _; rw [if_neg hh]⟩

/-- **Read side, success**: `DecodeNested` hands exactly the declared `L` bytes to the nested
    unmarshaler and consumes exactly `varint(L) ++ L bytes`. -/
theorem decodeNested_exact (d : Dec) (pre body post : Bytes) (hl : body.length ≤ maxFieldLen)
    (h : d.At pre (encVarint body.length ++ body ++ post)) :
    d.step (.nested true) = ({ d with off := d.off + (encVarint body.length ++ body).length }, .ok (.bytes body), 0) := by
  rw [Dec.step_nested, Dec.lenPrefix_at h hl]
  dsimp only
  rw [if_pos rfl, h.payload, h.off, List.length_append, Nat.add_assoc]

/-- **Read side, nested error**: the error propagates and the cursor does not move. -/
theorem decodeNested_error (d : Dec) (pre body post : Bytes) (hl : body.length ≤ maxFieldLen)
    (h : d.At pre (encVarint body.length ++ body ++ post)) :
    d.step (.nested false) = (d, .errNested body, 0) := by
  rw [Dec.step_nested, Dec.lenPrefix_at h hl]
  dsimp only
  rw [if_neg nofun, h.payload]

/-- **A declared length beyond the buffer is rejected without invoking the nested decoder**: the
    outcome is a plain `.err` (an invoked-and-failed decoder would be `.errNested`), whatever the
    nested unmarshaler would have done. -/
theorem decodeNested_beyond_buffer (d : Dec) (hi : d.off ≤ d.len) (l n : Nat) (succeeds : Bool)
    (hdec : decodeVarint (d.p.drop d.off) = .ok (l, n)) (hbig : l > d.len - (d.off + n)) :
    d.step (.nested succeeds) = (d, .err, 0) := by
  rw [Dec.step_nested, C03.declared_length_beyond_input_is_error d hi l n hdec hbig]

/-- **Round trip through the codec**: what `EncodeNested` wrote, `DecodeTag` + `DecodeNested`
    deliver back — the tag, and exactly the bytes `csproto.Marshal(m)` produced. -/
theorem nested_roundtrip (tag : Nat) (b : Bytes) (h1 : 1 ≤ tag) (ht : tag ≤ maxTagValue) (hl : b.length ≤ maxFieldLen)
    (d : Dec) (pre post : Bytes) (h : d.At pre (nestedWire tag b ++ post)) :
    ∃ d1 d2, d.step .tag = (d1, .ok (.tag tag wtLen), 0) ∧ d1.step (.nested true) = (d2, .ok (.bytes b), 0) ∧
      d2.off = pre.length + (nestedWire tag b).length := by
  have h' : d.At pre (encTag tag wtLen ++ (encVarint b.length ++ b ++ post)) := by
    rw [nestedWire, List.append_assoc, List.append_assoc, ← List.append_assoc (encVarint _)] at h; exact h
  refine ⟨_, _, Dec.tag_at h' h1 ht (by decide), decodeNested_exact _ _ b post hl h'.afterTag, ?_⟩
  simp only [Dec.afterTag_off, h.off, nestedWire, List.length_append, Nat.add_assoc]

/-! ## non-vacuity -/
example : ∃ e', (Enc.new 6).step (.nested 1 99 1 (some [8, 1, 16, 2])) = .ok e' ∧
    e'.written = [0x0a, 4, 8, 1, 16, 2] ∧ e'.off = 6 := by
  have hw : nestedWire 1 [8, 1, 16, 2] = [0x0a, 4, 8, 1, 16, 2] := by
    simp [nestedWire, encTag, keyOf, wtLen, two64, encVarint_small]
  obtain ⟨e', h, a⟩ := encodeNested_exact (Enc.new 6) 1 99 1 [8, 1, 16, 2] (by simp)
    (by rw [hw]; simp [Enc.Room, Enc.new, Enc.cap])
  exact ⟨e', h, by rw [a.written, hw]; simp [Enc.new, Enc.written], by rw [a.off, hw]; simp [Enc.new]⟩

end Csproto.C19
