import Csproto.Model.Shim
import Csproto.Model.Ext
import Csproto.Bridge.Shim
/-
  C12 — Extension accessors are coherent on every runtime.

  The runtimes' extension stores are abstract (`Store`: extension number ↦ value — what the runtime's
  own Set/Get/Has/Clear/Range implement; validated against the three real runtimes by the harness, part
  of the trusted base).  What is modelled and proved is csproto's part: the dispatch on
  (message type, dynamic type of the descriptor argument).

  * `accepts` models the type assertion each arm of `extensions.go` makes on `ext`.  What the source's arms assert
    is `ext_asserts_ok` / `ext_asserts_nothing_else` over the regenerated `Generated.shimAsserts` (no theorem relates
    the two tables); `Bridge.arms_call_owner`: each arm calls its own runtime's function;
  * `transparent`     — with a descriptor of the message's own runtime every csproto accessor *is* the
                         runtime's accessor (same state change, same answer);
  * `history_refines` — every history of Set/Clear/ClearAll/Has/Get/Range through csproto with such a descriptor is
                         the history on the abstract map, for which `coherent_*` hold: Has after Set, Get returns the
                         value set, absent after Clear/ClearAll, Range visits exactly the set ones;
  * `mismatch`        — a descriptor of another runtime family: Has = false, Get/Set = error,
                         ClearExtension panics as documented; the message is never modified.
-/
namespace Csproto.C12
open Csproto

theorem coherent_has_after_set (s : Store) (k : Nat) (v : Val) : shas (sset s k v) k = true := by
  simp [shas, sget, sset]
theorem coherent_get_after_set (s : Store) (k : Nat) (v : Val) : sget (sset s k v) k = some v := by
  simp [sget, sset]
theorem coherent_set_other (s : Store) (k k' : Nat) (v : Val) (h : k' ≠ k) : sget (sset s k v) k' = sget s k' := by
  have hb : (k == k') = false := by simpa using (Ne.symm h)
  simp only [sget, sset, List.find?_cons, hb, List.find?_filter]
  congr 2
  funext a
  by_cases ha : a.1 = k'
  · simp [ha, h]
  · simp [ha]
theorem coherent_absent_after_clear (s : Store) (k : Nat) : shas (sclear s k) k = false := by
  simp [shas, sget, sclear, List.find?_filter]
theorem coherent_keys_after_clear (s : Store) (k : Nat) : k ∉ skeys (sclear s k) := by
  simp [skeys, sclear]
theorem coherent_clearAll (mt : MT) (s : Store) (h : mt ≠ .unknown) : (csClearAll mt s).1 = [] ∧ csRange mt (csClearAll mt s).1 = .keys [] := by
  simp [csClearAll, csRange, h, skeys]
theorem coherent_range_has (s : Store) (k : Nat) : k ∈ skeys s ↔ shas s k = true := by
  simp only [skeys, shas, sget, Option.isSome_map, List.find?_isSome, List.mem_map]
  constructor
  · rintro ⟨p, hp, rfl⟩; exact ⟨p, hp, by simp⟩
  · rintro ⟨p, hp, hk⟩; exact ⟨p, hp, by simpa using hk⟩

theorem ne_unknown_of_accepts {mt : MT} {dk : DK} (h : accepts mt dk = true) : mt ≠ .unknown := by
  rintro rfl; cases dk <;> cases h

theorem transparent (mt : MT) (dk : DK) (s : Store) (k : Nat) (v : Val) (h : accepts mt dk = true) :
    csHas mt dk s k = .bool (shas s k) ∧ csGet mt dk s k = .val (sget s k) ∧
    csSet mt dk s k v = (sset s k v, .unit) ∧ csClear mt dk s k = (sclear s k, .unit) := by
  simp [csHas, csGet, csSet, csClear, h]

/-- **the property's clauses, for every extension number whatsoever** (the first or the last number of a
    declared range, 2^29-1, …: the dispatcher never looks at the number, it only hands it to the store):
    after Set, Has is true and Get returns the value; after Clear or ClearAll, Has is false and Range does not
    visit it -/
theorem set_then_has_get (mt : MT) (dk : DK) (s : Store) (k : Nat) (v : Val) (h : accepts mt dk = true) :
    csHas mt dk (csSet mt dk s k v).1 k = .bool true ∧ csGet mt dk (csSet mt dk s k v).1 k = .val (some v) := by
  simp [csHas, csGet, csSet, h, coherent_has_after_set, coherent_get_after_set]

theorem clear_then_absent (mt : MT) (dk : DK) (s : Store) (k : Nat) (h : accepts mt dk = true) :
    csHas mt dk (csClear mt dk s k).1 k = .bool false ∧
    (∀ ks, csRange mt (csClear mt dk s k).1 = .keys ks → k ∉ ks) := by
  refine ⟨by simp [csHas, csClear, h, coherent_absent_after_clear], ?_⟩
  intro ks hks
  simp only [csRange, csClear, h, ne_unknown_of_accepts h, if_true, if_false, Out.keys.injEq] at hks
  subst hks
  exact coherent_keys_after_clear s k

theorem clearAll_then_absent (mt : MT) (dk : DK) (s : Store) (k : Nat) (h : accepts mt dk = true) :
    csHas mt dk (csClearAll mt s).1 k = .bool false := by
  simp [csHas, csClearAll, h, ne_unknown_of_accepts h, shas, sget]

/-- the answers for two numbers differ only through the store: a dispatcher that treated some numbers
    specially (say, the last one of a declared range) would not satisfy this -/
theorem number_blind (mt : MT) (dk : DK) (s : Store) (k k' : Nat) (h : shas s k = shas s k') :
    csHas mt dk s k = csHas mt dk s k' := by
  simp [csHas, h]

/-- non-vacuity at the boundaries: `extensions 100 to 199`, `extensions 1000 to max` -/
example : (runCs .gogo .gogoDesc [] [.set 199 1, .set 536870911 2, .has 199, .has 536870911, .clear 199, .has 199, .range]).2
    = [.unit, .unit, .bool true, .bool true, .unit, .bool false, .keys [536870911]] := by decide +kernel

theorem mismatch (mt : MT) (dk : DK) (s : Store) (k : Nat) (v : Val) (h : accepts mt dk = false) :
    csHas mt dk s k = .bool false ∧ csGet mt dk s k = .err ∧
    csSet mt dk s k v = (s, .err) ∧ csClear mt dk s k = (s, .panic) := by
  simp [csHas, csGet, csSet, csClear, h]

/-- descriptors of the other runtime family are mismatches, in both directions -/
theorem cross_family_refused :
    accepts .gogo .googleInfo = false ∧ accepts .gogo .otherV2Type = false ∧
    accepts .google .gogoDesc = false ∧ accepts .googleV1 .gogoDesc = false ∧
    (∀ dk, accepts .unknown dk = false) := by
  refine ⟨rfl, rfl, rfl, rfl, ?_⟩; intro dk; cases dk <;> rfl

/-- **every history through csproto with the message's own descriptors is the history on the
    runtime's store**: same final state, same answers at every step -/
theorem history_refines (mt : MT) (dk : DK) (h : accepts mt dk = true) (ops : List Op) : ∀ (s : Store),
    runCs mt dk s ops = runSpec s ops := by
  have hm := ne_unknown_of_accepts h
  induction ops with
  | nil => intro s; rfl
  | cons op ops ih =>
    intro s
    cases op <;> simp only [runCs, runSpec, csSet, csClear, csClearAll, csHas, csGet, csRange, h, hm, if_true, if_false, ih]

/-- with a foreign descriptor no history modifies the message -/
theorem foreign_history_keeps_state (mt : MT) (dk : DK) (h : accepts mt dk = false) (ops : List Op)
    (hno : ∀ op ∈ ops, op ≠ .clearAll) : ∀ (s : Store), (runCs mt dk s ops).1 = s := by
  induction ops with
  | nil => intro s; rfl
  | cons op ops ih =>
    intro s
    have ih' := ih (fun o ho => hno o (by simp [ho]))
    cases op with
    | clearAll => exact absurd rfl (hno .clearAll List.mem_cons_self)
    | _ => simp only [runCs, csSet, csClear, h, Bool.false_eq_true, if_false]; exact ih' s

/-- each arm of Has/Clear/Get/SetExtension asserts the descriptor type of its own runtime -/
theorem ext_asserts_ok :
    ∀ f ∈ ["HasExtension", "ClearExtension", "GetExtension", "SetExtension"],
      (f, "MessageTypeGogo", "github.com/gogo/protobuf/proto", "*ExtensionDesc") ∈ Generated.shimAsserts ∧
      (f, "MessageTypeGoogleV1", "google.golang.org/protobuf/internal/impl", "*ExtensionInfo") ∈ Generated.shimAsserts ∧
      (f, "MessageTypeGoogle", "google.golang.org/protobuf/reflect/protoreflect", "ExtensionType") ∈ Generated.shimAsserts := by
  decide +kernel

/-- and no arm asserts a descriptor type of another family: every assertion is of a type of the owning runtime
    (`Bridge.arms_assert_owner`, for all dispatching functions), and gogo's package is owned by the Gogo class alone -/
theorem ext_asserts_nothing_else :
    ∀ a ∈ Generated.shimAsserts, a.1 ∈ ["HasExtension", "ClearExtension", "GetExtension", "SetExtension"] →
      (a.2.1 = "MessageTypeGogo" → a.2.2.1 = "github.com/gogo/protobuf/proto") ∧
      (a.2.1 ≠ "MessageTypeGogo" → a.2.2.1 ≠ "github.com/gogo/protobuf/proto") :=
  fun a ha _ =>
    have h := Bridge.owners_gogo (List.all_eq_true.mp Bridge.arms_assert_owner a ha)
    ⟨h.mp, fun hn hp => hn (h.mpr hp)⟩

/-- non-vacuity -/
example : (runCs .google .googleInfo [] [.set 100 7, .set 101 9, .clear 100, .has 100, .get 101, .range]).2
    = [.unit, .unit, .unit, .bool false, .val (some 9), .keys [101]] := by decide +kernel

end Csproto.C12
