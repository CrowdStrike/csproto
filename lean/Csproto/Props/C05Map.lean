import Csproto.Props.C04
import Csproto.Props.C05
import Csproto.Proofs.GenMapRoundtrip
import Csproto.Proofs.GenMapTemplate
import Csproto.Proofs.GenMapSame
/-
  C05 / C06 / C04 for map fields, which are outside `roundtrip_nested` — the marshal side.

  A Go map is iterated in arbitrary order.  In the model a map field (`Card.map`, `ty = .msg e`, `e` the entry
  type `entryMD kk vty`) holds `F.many es`: the entries IN THE ORDER `range` DELIVERED THEM, each
  `V.msg [.one key, .one value] []` — or, in a message-valued map, `V.msg [.one key, .unset] []` when the value is
  a nil pointer; such an entry is passed over by `Size` and `MarshalTo` exactly as by the two snippets
  (`nil_value_entry_is_skipped`, `nil_valued_entries_do_not_matter`) and is therefore not in the map after the round
  trip (`roundtrip_drops_nil_valued_entries`).  The hypotheses of the theorems below say nothing about that order; they
  only require the keys of one map to be pairwise distinct after normalisation to the key type's width
  (`KeysDistinct`), which every Go map satisfies.

  (a) exactness — `size_exact_maps`, `marshalTo_fills_maps` (the instances of C04), and for the snippets AS WRITTEN
      (`EncodeMapEntryHeader` + key writer + value writer, `keySize`/`valueSize` with the literal `1 +`):
      `snippet_size_is_model_size`, `snippet_bytes_are_model_bytes`, `snippet_exact`;
  (b) `map_field_is_entry_records`, `marshal_record_tree_maps`, `record_tree_maps_well_formed` — what a map
      field writes is one `NRec.map` record per entry, each a well-formed map-entry record in the sense of
      `unmarshal_nested` (payload: the key record then the value record, value nested when message-typed);
  (c) `roundtrip_maps` — `Unmarshal (Marshal m) = canonFs m` in both decoder modes, for maps at any depth next
      to everything `roundtrip_nested` covers; consequences that do not mention order:
      `roundtrip_maps_as_finite_map` (same length, same entries, same lookup function) and
      `roundtrip_order_independent` (two iteration orders of the same maps decode to messages that are equal
      field by field except that map fields are permutations of each other, and have the same lookup function);
      `roundtrip_order_independent_deep` is the same for map entries reordered at any depth.
-/
namespace Csproto.C05Map
open Csproto Csproto.Gen

/-- `Size()` of a message with map fields (any schema, any nesting) = bytes written by its `MarshalTo` -/
theorem size_exact_maps (S : Schema) (md : MD) (fs : List F) (unk : Bytes) (ops : List EncOp)
    (hok : OKFields S md fs) (ho : opsFields S md fs = .ok ops) :
    sizeFields S md fs + unk.length = (Gen.wiresOf (ops ++ [.raw unk])).length :=
  C04.size_exact S md fs unk ops hok ho

/-- `MarshalTo` into a buffer of exactly `Size()` bytes: no panic, exact fill, exact contents -/
theorem marshalTo_fills_maps (S : Schema) (md : MD) (fs : List F) (unk : Bytes) (ops : List EncOp)
    (hok : OKFields S md fs) (ho : opsFields S md fs = .ok ops) :
    ∃ e, (Enc.new (sizeFields S md fs + unk.length)).run (ops ++ [.raw unk]) = .ok e ∧
      e.off = e.cap ∧ e.cap = sizeFields S md fs + unk.length ∧ e.buf = Gen.wiresOf ops ++ unk :=
  C04.marshalTo_fills S md fs unk ops hok ho

/-- the `range` loop of `SizeOfMapEntry` as written adds what the model's map arm adds -/
theorem snippet_size_is_model_size (S : Schema) (num e : Nat) (kk : SK) (vty : Ty) (hk : legalKey kk = true)
    (hemd : S.md e = entryMD kk vty) (es : List V) (hes : ∀ x ∈ es, IsEntry vty x) :
    tMapSize S num kk vty es = sizeField S ⟨num, .msg e, .map⟩ (.many es) := by
  simp only [sizeField, hemd, Card.isMap]
  exact tMapSize_eq S num kk vty hk es hes

/-- the `range` loop of `MarshalMapEntry` as written (`EncodeMapEntryHeader`, key, value) has the outcome and
    writes the bytes of the model's map arm -/
theorem snippet_bytes_are_model_bytes (S : Schema) (num e : Nat) (kk : SK) (vty : Ty) (hk : legalKey kk = true)
    (hemd : S.md e = entryMD kk vty) (es : List V) (hes : ∀ x ∈ es, IsEntry vty x)
    (hvs : ∀ x ∈ es, ∀ j, vty = .msg j → OKMsgV S (S.md j) (entryVal x)) :
    (tMapOps S num kk vty es).map Gen.wiresOf = (opsField S ⟨num, .msg e, .map⟩ (.many es)).map Gen.wiresOf := by
  simp only [opsField, hemd, Card.isMap]
  exact tMapOps_eq S num kk vty hk es hes

/-- C04 for the two map snippets as written, entries in any order -/
theorem snippet_exact (S : Schema) (num : Nat) (kk : SK) (vty : Ty) (hk : legalKey kk = true) (ht : C01.ValidTag num)
    (es : List V) (hes : ∀ e ∈ es, IsEntry vty e) (hok : OKMsgList S (entryMD kk vty) es)
    (hvs : ∀ e ∈ es, ∀ j, vty = .msg j → OKMsgV S (S.md j) (entryVal e))
    (ops : List EncOp) (ho : tMapOps S num kk vty es = .ok ops) :
    tMapSize S num kk vty es = (Gen.wiresOf ops).length ∧
      ∀ (e : Enc), e.Room (Gen.wiresOf ops).length → ∃ e', e.run ops = .ok e' ∧ Enc.Appended e e' (Gen.wiresOf ops) :=
  tMap_exact S num kk vty hk ht es hes hok ops ho

/-- a nil pointer as the value of a message-valued map entry: the entry adds nothing to `Size()` and
    `MarshalTo` makes no encoder call for it — `if v != nil { … }` around the `sz +=` of `SizeOfMapEntry`,
    `if v == nil { continue }` at the top of the loop body of `MarshalMapEntry` (all three API flavours share the
    snippets). -/
theorem nil_value_entry_is_skipped (S : Schema) (num j : Nat) (kk : SK) (k : V) (u : Bytes) :
    sizeMsgList S (entryMD kk (.msg j)) num true [.msg [.one k, .unset] u] = 0 ∧
    opsMsgList S (entryMD kk (.msg j)) num true [.msg [.one k, .unset] u] = .ok [] := by
  -- the entry type is message-valued and the value field is unset: the entry is not among those written
  have hl : liveVs (entryMD kk (.msg j)) true [.msg [.one k, .unset] u] = [] := rfl
  constructor
  · rw [sizeMsgList_live, hl]
    rfl
  · rw [opsMsgList_live, hl]
    rfl

/-- nil-valued entries do not matter: a map field marshals exactly as the same map with the nil-valued entries
    removed (same `Size()`, same encoder calls, hence — `C04` — the same bytes) -/
theorem nil_valued_entries_do_not_matter (S : Schema) (num e : Nat) (es : List V) :
    sizeField S ⟨num, .msg e, .map⟩ (.many es) = sizeField S ⟨num, .msg e, .map⟩ (.many (liveVs (S.md e) true es)) ∧
    opsField S ⟨num, .msg e, .map⟩ (.many es) = opsField S ⟨num, .msg e, .map⟩ (.many (liveVs (S.md e) true es)) := by
  have hll : liveVs (S.md e) true (liveVs (S.md e) true es) = liveVs (S.md e) true es := by
    simp [liveVs, List.filter_filter]
  constructor
  · show sizeMsgList S _ num true es = sizeMsgList S _ num true _
    rw [sizeMsgList_live S _ num true es, sizeMsgList_live S _ num true (liveVs (S.md e) true es), hll]
  · show opsMsgList S _ num true es = opsMsgList S _ num true _
    rw [opsMsgList_live S _ num true es, opsMsgList_live S _ num true (liveVs (S.md e) true es), hll]

/-- a map field contributes one `NRec.map` record per entry written (not nil-valued), in iteration order, whose
    payload is the record tree of the entry (key record, value record) -/
theorem map_field_is_entry_records (S : Schema) (idx : Nat) (fd : FD) (e : Nat) (hty : fd.ty = .msg e)
    (hm : fd.card = .map) (es : List V) :
    recsFieldM S idx fd (.many es)
      = (liveVs (S.md e) true es).map fun x => NRec.map idx fd e (recsVM S (S.md e) x) := by
  obtain ⟨num, ty, card⟩ := fd
  cases hty; cases hm
  show recsListM S idx _ e es = _
  induction es with
  | nil => rfl
  | cons x xs ih =>
    cases hn : nilEntry (S.md e) x
    · rw [recsListM_live S idx (fd := ⟨_, _, .map⟩) xs hn, liveVs_live (sk := true) xs hn, ih]; rfl
    · rw [recsListM_skip S idx (fd := ⟨_, _, .map⟩) xs hn, liveVs_skip (sk := true) xs hn, ih]

/-- what `Marshal` writes is exactly the wire form of that record tree -/
theorem marshal_record_tree_maps (S : Schema) (md : MD) (fs : List F) (ops : List EncOp)
    (hok : OKFields S md fs) (hcl : CleanFs fs) (ho : opsFields S md fs = .ok ops) :
    Gen.wiresOf ops = wiresN (recsFieldsM S 0 md fs) :=
  ops_recsFieldsM S md fs ops hok hcl ho

/-- every record of the tree is well formed in the sense of `unmarshal_nested`: a map entry is an `NRec.map`
    record of the map field's own number whose payload is a sequence of well-formed entry records (`OKsE`) -/
theorem record_tree_maps_well_formed (S : Schema) (hS : SchemaOKM S) (i : Nat) (fs : List F)
    (hwf : WFsM S (S.md i) fs) : OKs S (S.md i) (recsFieldsM S 0 (S.md i) fs) :=
  record_treeM_ok S hS i fs hwf

/-- Round trip with map fields, both decoder modes, any iteration order, keys pairwise distinct -/
theorem roundtrip_maps (S : Schema) (hS : SchemaOKM S) (fast : Bool) (i : Nat) (fs : List F) (urs : List Rec)
    (ops : List EncOp) (hwf : WFsM S (S.md i) fs) (hex : Excl (S.md i) fs) (hok : OKFields S (S.md i) fs)
    (hu : ∀ r ∈ urs, r.OK ∧ findField (S.md i) r.tag 0 = none)
    (ho : opsFields S (S.md i) fs = .ok ops) :
    unmarshal S fast (S.md i) (Gen.wiresOf ops ++ Csproto.wiresOf urs)
      = .ok (canonFs S (S.md i) fs, Csproto.wiresOf urs) :=
  roundtrip_map S hS fast i fs urs ops hwf hex hok hu ho

/-- the two decoder modes agree on `Marshal` output -/
theorem roundtrip_maps_mode_independent (S : Schema) (hS : SchemaOKM S) (i : Nat) (fs : List F) (urs : List Rec)
    (ops : List EncOp) (hwf : WFsM S (S.md i) fs) (hex : Excl (S.md i) fs) (hok : OKFields S (S.md i) fs)
    (hu : ∀ r ∈ urs, r.OK ∧ findField (S.md i) r.tag 0 = none)
    (ho : opsFields S (S.md i) fs = .ok ops) :
    unmarshal S true (S.md i) (Gen.wiresOf ops ++ Csproto.wiresOf urs)
      = unmarshal S false (S.md i) (Gen.wiresOf ops ++ Csproto.wiresOf urs) := by
  rw [roundtrip_maps S hS true i fs urs ops hwf hex hok hu ho, roundtrip_maps S hS false i fs urs ops hwf hex hok hu ho]

theorem decoded_keys_distinct (S : Schema) (fd : FD) (f : F) (es : List V) (hm : fd.card = .map)
    (href : MapRef S fd) (hwf : WFfM S fd f) (hc : canonF S fd f = .many es) : StoredKeysDistinct es := by
  obtain ⟨e, kk, vty, hty, hemd⟩ := href hm
  obtain ⟨num, ty, card⟩ := fd
  cases hty; cases hm
  cases f with
  | unset => cases hc; exact .nil
  | one v => cases hc
  | many vs =>
    cases hc
    obtain ⟨hcase, _, hvs⟩ := hwf
    obtain ⟨_, hset, hd⟩ := hcase.resolve_left nofun
    rw [canonVs_eq_map]
    exact storedKeys_live S hemd hvs hset hd

/-- the decoded map equals the original as a finite map: for every map field, what `Unmarshal (Marshal m)`
    holds is a permutation of (in fact: is) the normalised entries of `m` that were written — all entries except
    those whose message value is a nil pointer (`liveVs`; see `roundtrip_maps_as_finite_map_no_nil` for maps
    without such entries, where that is all of them) — same number of entries, every entry present, none merged —
    its stored keys are pairwise distinct, and its lookup function is that of the normalised original, a statement
    in which the order of the entries does not occur -/
theorem roundtrip_maps_as_finite_map (S : Schema) (hS : SchemaOKM S) (fast : Bool) (i : Nat) (fs : List F)
    (ops : List EncOp) (hwf : WFsM S (S.md i) fs) (hex : Excl (S.md i) fs) (hok : OKFields S (S.md i) fs)
    (ho : opsFields S (S.md i) fs = .ok ops) :
    ∃ d, unmarshal S fast (S.md i) (Gen.wiresOf ops) = .ok (d, []) ∧
      ∀ (j e : Nat) (fd : FD) (es : List V), (S.md i)[j]? = some fd → fd.card = .map → fd.ty = .msg e →
        fs[j]? = some (.many es) →
        ∃ ds, d[j]? = some (.many ds) ∧ ds.Perm ((liveVs (S.md e) true es).map (canonV S (S.md e))) ∧
          ds.length = (liveVs (S.md e) true es).length ∧
          StoredKeysDistinct ds ∧ ∀ k, mapGet ds k = mapGet ((liveVs (S.md e) true es).map (canonV S (S.md e))) k := by
  refine ⟨_, roundtrip_map_known S hS fast i fs ops hwf hex hok ho, fun j e fd es hj hm hty hf => ?_⟩
  have hg := canonFs_map_field S hj hm hty hf
  obtain ⟨kk, vty, hemd, hvs, hset, hd⟩ := wfsM_map_field S hS hwf hj hm hty hf
  exact ⟨_, hg, .refl _, List.length_map _, storedKeys_live S hemd hvs hset hd, fun _ => rfl⟩

/-- … for a message none of whose top-level maps holds a nil pointer: every entry is there after the round trip -/
theorem roundtrip_maps_as_finite_map_no_nil (S : Schema) (hS : SchemaOKM S) (fast : Bool) (i : Nat) (fs : List F)
    (ops : List EncOp) (hwf : WFsM S (S.md i) fs) (hex : Excl (S.md i) fs) (hok : OKFields S (S.md i) fs)
    (ho : opsFields S (S.md i) fs = .ok ops)
    (hnn : ∀ (j : Nat) (es : List V), fs[j]? = some (.many es) → ∀ x ∈ es, EntrySet x) :
    ∃ d, unmarshal S fast (S.md i) (Gen.wiresOf ops) = .ok (d, []) ∧
      ∀ (j e : Nat) (fd : FD) (es : List V), (S.md i)[j]? = some fd → fd.card = .map → fd.ty = .msg e →
        fs[j]? = some (.many es) →
        ∃ ds, d[j]? = some (.many ds) ∧ ds.Perm (es.map (canonV S (S.md e))) ∧ ds.length = es.length ∧
          StoredKeysDistinct ds ∧ ∀ k, mapGet ds k = mapGet (es.map (canonV S (S.md e))) k := by
  obtain ⟨d, hd, h⟩ := roundtrip_maps_as_finite_map S hS fast i fs ops hwf hex hok ho
  refine ⟨d, hd, fun j e fd es hj hm hty hf => ?_⟩
  have := h j e fd es hj hm hty hf
  rwa [liveVs_of_set (S.md e) true es (hnn j es hf)] at this

/-- round trip of a map holding nil pointers: `Unmarshal (Marshal m)` is `m` with the nil-valued entries
    removed (and the usual normalisation of values to their field width) — for every map field of `m` the decoded
    map holds exactly the normalised entries whose value is not nil, in the order written, and the key of a
    nil-valued entry is NOT a key of the decoded map (`m[k]` finds nothing) -/
theorem roundtrip_drops_nil_valued_entries (S : Schema) (hS : SchemaOKM S) (fast : Bool) (i : Nat) (fs : List F)
    (ops : List EncOp) (hwf : WFsM S (S.md i) fs) (hex : Excl (S.md i) fs) (hok : OKFields S (S.md i) fs)
    (ho : opsFields S (S.md i) fs = .ok ops) :
    ∃ d, unmarshal S fast (S.md i) (Gen.wiresOf ops) = .ok (d, []) ∧
      ∀ (j e : Nat) (fd : FD) (es : List V), (S.md i)[j]? = some fd → fd.card = .map → fd.ty = .msg e →
        fs[j]? = some (.many es) →
        ∃ ds, d[j]? = some (.many ds) ∧
          ds = (es.filter fun x => !nilEntry (S.md e) x).map (canonV S (S.md e)) ∧
          ∀ x ∈ es, nilEntry (S.md e) x = true → mapGet ds (canonKey (S.md e) x) = none := by
  refine ⟨_, roundtrip_map_known S hS fast i fs ops hwf hex hok ho, fun j e fd es hj hm hty hf => ?_⟩
  have hg := canonFs_map_field S hj hm hty hf
  obtain ⟨kk, vty, hemd, hvs, hset, hd⟩ := wfsM_map_field S hS hwf hj hm hty hf
  refine ⟨_, hg, rfl, fun x hx hxn => ?_⟩
  -- no entry that was written has the key of `x`
  unfold mapGet
  rw [List.find?_eq_none.mpr, Option.map_none]
  intro c hc
  obtain ⟨y, hy, rfl⟩ := List.mem_map.mp hc
  obtain ⟨hym, hwy, hsy⟩ := mem_liveVs hvs hset hy
  have hne : y ≠ x := fun h => by rw [h, liveVs, List.mem_filter, hxn] at hy; exact absurd hy.2 nofun
  have hk := keys_differ hd y hym x hx hne
  rw [hemd] at hwy hk ⊢
  rw [entryKey_canonV S kk vty y hwy hsy, hk]
  nofun

/-- order independence of the round trip: let `fs` and `gs` be the same message with the entries of its
    maps delivered in two different orders (`MapsPermuted`).  Then both encodings decode successfully, the
    two results agree on every non-map field, their map fields are permutations of each other, and every map
    field has the same lookup function in both — i.e. they are the same message. -/
theorem roundtrip_order_independent (S : Schema) (hS : SchemaOKM S) (fast : Bool) (i : Nat) (fs gs : List F)
    (opsF opsG : List EncOp) (hperm : MapsPermuted (S.md i) fs gs)
    (hwfF : WFsM S (S.md i) fs) (hexF : Excl (S.md i) fs) (hokF : OKFields S (S.md i) fs)
    (hoF : opsFields S (S.md i) fs = .ok opsF)
    (hwfG : WFsM S (S.md i) gs) (hexG : Excl (S.md i) gs) (hokG : OKFields S (S.md i) gs)
    (hoG : opsFields S (S.md i) gs = .ok opsG) :
    ∃ d1 d2, unmarshal S fast (S.md i) (Gen.wiresOf opsF) = .ok (d1, []) ∧
      unmarshal S fast (S.md i) (Gen.wiresOf opsG) = .ok (d2, []) ∧
      MapsPermuted (S.md i) d1 d2 ∧
      ∀ (j : Nat) (fd : FD) (es1 es2 : List V), (S.md i)[j]? = some fd → fd.card = .map →
        d1[j]? = some (.many es1) → d2[j]? = some (.many es2) → ∀ k, mapGet es1 k = mapGet es2 k := by
  have hmp := canonFs_mapsPermuted S (S.md i) fs gs hperm
  refine ⟨_, _, roundtrip_map_known S hS fast i fs opsF hwfF hexF hokF hoF,
    roundtrip_map_known S hS fast i gs opsG hwfG hexG hokG hoG, hmp, fun j fd es1 es2 hj hm hd1 hd2 k => ?_⟩
  rcases hmp.2 j fd hj with he | ⟨_, a, b, ha, hb, hp⟩
  · rw [hd1, hd2] at he; cases he; rfl
  · cases hd1.symm.trans ha; cases hd2.symm.trans hb
    rw [canonFs_getElem?, hj] at hd1
    exact mapGet_perm hp (decoded_keys_distinct S fd _ es1 hm ((hS i).2 fd (List.mem_of_getElem? hj))
      (wfsM_get S _ fs j fd hwfF hj) (Option.some.inj hd1)) k

/-- 0: `{ map<string,int32> a = 1; map<int32,Inner> b = 2; int32 c = 3 }`, 1: entry of `a` (and of `Inner.m`),
    2: entry of `b`, 3: `Inner { optional string s = 1; map<string,int32> m = 2 }` -/
def sX : Schema :=
  [[⟨1, .msg 1, .map⟩, ⟨2, .msg 2, .map⟩, ⟨3, .sc .int32, .implicit⟩],
   entryMD .string (.sc .int32),
   entryMD .int32 (.msg 3),
   [⟨1, .sc .string, .explicit⟩, ⟨2, .msg 1, .map⟩]]

def eA : V := .msg [.one (.bs [0x61]), .one (.num 1)] []                 -- "a" ↦ 1
def eB : V := .msg [.one (.bs [0x62]), .one (.num 4294967295)] []        -- "b" ↦ -1
def inner1 : V := .msg [.one (.bs [0x78]), .many [eA]] []                -- { s: "x", m: { "a": 1 } }
def inner2 : V := .msg [.unset, .many []] []                             -- {}
def e7 : V := .msg [.one (.num 7), .one inner1] []                       -- 7 ↦ inner1
def e8 : V := .msg [.one (.num 8), .one inner2] []                       -- 8 ↦ inner2
/-- one iteration order … -/
def fsX : List F := [.many [eB, eA], .many [e8, e7], .one (.num 5)]
/-- … and another -/
def gsX : List F := [.many [eA, eB], .many [e7, e8], .one (.num 5)]

theorem schemaX_ok : SchemaOKM sX
  | 0 => ⟨(by decide : [1, 2, 3].Nodup), List.forall_mem_cons.mpr ⟨fun _ => ⟨1, _, _, rfl, rfl⟩,
      List.forall_mem_cons.mpr ⟨fun _ => ⟨2, _, _, rfl, rfl⟩, List.forall_mem_singleton.mpr nofun⟩⟩⟩
  | 1 => ⟨(by decide : [1, 2].Nodup), List.forall_mem_cons.mpr ⟨nofun, List.forall_mem_singleton.mpr nofun⟩⟩
  | 2 => ⟨(by decide : [1, 2].Nodup), List.forall_mem_cons.mpr ⟨nofun, List.forall_mem_singleton.mpr nofun⟩⟩
  | 3 => ⟨(by decide : [1, 2].Nodup), List.forall_mem_cons.mpr ⟨nofun,
      List.forall_mem_singleton.mpr fun _ => ⟨1, _, _, rfl, rfl⟩⟩⟩
  | _ + 4 => ⟨List.nodup_nil, fun _ h => absurd h List.not_mem_nil⟩

theorem exclX : ∀ (i : Nat) (fs : List F), Excl (sX.md i) fs
  | 0, _ | 1, _ | 2, _ | 3, _ | _ + 4, _ => excl_of_all_not_oneof _ rfl _

/-- a value of message type `i` of the example schema that is well formed and within the encoder's bounds -/
def Good (i : Nat) (v : V) : Prop := WFvM sX (sX.md i) v ∧ OKMsgV sX (sX.md i) v

/-- assembling `Good` for a concrete value: the length bound is checked on the computed `Size()` -/
theorem good_intro (i : Nat) (fs : List F) (hwf : WFsM sX (sX.md i) fs) (hok : OKFields sX (sX.md i) fs)
    (ho : ∃ ops, opsFields sX (sX.md i) fs = .ok ops) (hs : sizeFields sX (sX.md i) fs ≤ maxFieldLen) :
    Good i (.msg fs []) := by
  obtain ⟨ops, ho⟩ := ho
  refine ⟨⟨rfl, hwf, ?_, exclX i fs⟩, hok⟩
  rw [recsM_len_eq_size sX _ fs ops hok (wfsM_clean sX _ fs hwf) ho]; exact hs

/-- an entry of `map<string,int32>` -/
theorem good_ent1 (k : Bytes) (n : Nat) (hk : k.length ≤ maxFieldLen)
    (hs : sizeFields sX (sX.md 1) [.one (.bs k), .one (.num n)] ≤ maxFieldLen) :
    Good 1 (.msg [.one (.bs k), .one (.num n)] []) :=
  good_intro 1 _
    (hwf := ⟨⟨rfl, ⟨validTag_1, hk⟩, trivial⟩,
      ⟨rfl, ⟨validTag_2, trivial⟩, trivial⟩,
      trivial⟩)
    (hok := ⟨⟨validTag_1, hk⟩,
      ⟨validTag_2, trivial⟩,
      trivial⟩)
    (ho := ⟨_, rfl⟩) (hs := hs)

theorem good_eA : Good 1 eA := good_ent1 _ _ (by decide) (by decide)
theorem good_eB : Good 1 eB := good_ent1 _ _ (by decide) (by decide)

theorem entrySet_pair (k v : V) : EntrySet (.msg [.one k, .one v] []) :=
  List.forall_mem_cons.mpr ⟨nofun, List.forall_mem_singleton.mpr nofun⟩

theorem good_inner1 : Good 3 inner1 :=
  -- field 2 holds the one entry `eA`: it is set, and a single key is distinct
  have hm : (∀ e ∈ [eA], EntryOK (sX.md 1) e) ∧ KeysDistinct (sX.md 1) [eA] :=
    ⟨List.forall_mem_singleton.mpr (.inl (entrySet_pair _ _)), List.pairwise_singleton ..⟩
  good_intro 3 _
    (hwf := ⟨⟨rfl, ⟨validTag_1, (by decide : 1 ≤ maxFieldLen)⟩, trivial⟩,
      ⟨.inr ⟨rfl, hm⟩, validTag_2, good_eA.1, trivial⟩,
      trivial⟩)
    (hok := ⟨⟨validTag_1, (by decide : 1 ≤ maxFieldLen)⟩,
      ⟨validTag_2, good_eA.2, trivial⟩,
      trivial⟩)
    (ho := ⟨_, rfl⟩) (hs := by decide)

theorem good_inner2 : Good 3 inner2 :=
  good_intro 3 _
    (hwf := ⟨trivial,
      ⟨.inr ⟨rfl, nofun, .nil⟩, validTag_2, trivial⟩,
      trivial⟩)
    (hok := ⟨trivial,
      ⟨validTag_2, trivial⟩,
      trivial⟩)
    (ho := ⟨_, rfl⟩) (hs := by decide)

/-- an entry of `map<int32,Inner>` -/
theorem good_ent2 (k : Nat) (w : V) (hw : Good 3 w) (ho : ∃ ops, opsFields sX (sX.md 2) [.one (.num k), .one w] = .ok ops)
    (hs : sizeFields sX (sX.md 2) [.one (.num k), .one w] ≤ maxFieldLen) : Good 2 (.msg [.one (.num k), .one w] []) :=
  good_intro 2 _
    (hwf := ⟨⟨rfl, ⟨validTag_1, trivial⟩, trivial⟩,
      ⟨rfl, nofun, validTag_2, hw.1⟩,
      trivial⟩)
    (hok := ⟨⟨validTag_1, trivial⟩,
      ⟨validTag_2, hw.2⟩,
      trivial⟩)
    (ho := ho) (hs := hs)

theorem good_e7 : Good 2 e7 := good_ent2 _ _ good_inner1 ⟨_, rfl⟩ (by decide)
theorem good_e8 : Good 2 e8 := good_ent2 _ _ good_inner2 ⟨_, rfl⟩ (by decide)

/-- "a" ≠ "b" and 7 ≠ 8, in either order -/
theorem keysAB : keyEq (canonKey (sX.md 1) eA) (canonKey (sX.md 1) eB) = false ∧
    keyEq (canonKey (sX.md 1) eB) (canonKey (sX.md 1) eA) = false := by decide
theorem keys78 : keyEq (canonKey (sX.md 2) e7) (canonKey (sX.md 2) e8) = false ∧
    keyEq (canonKey (sX.md 2) e8) (canonKey (sX.md 2) e7) = false := by decide

/-- the top level: two maps of two entries each, and a scalar -/
theorem good_top (a b c d : V) (ha : Good 1 a) (hb : Good 1 b) (sa : EntryOK (sX.md 1) a) (sb : EntryOK (sX.md 1) b)
    (kab : keyEq (canonKey (sX.md 1) a) (canonKey (sX.md 1) b) = false)
    (hc : Good 2 c) (hd : Good 2 d) (sc : EntryOK (sX.md 2) c) (sd : EntryOK (sX.md 2) d)
    (kcd : keyEq (canonKey (sX.md 2) c) (canonKey (sX.md 2) d) = false) :
    WFsM sX (sX.md 0) [.many [a, b], .many [c, d], .one (.num 5)] ∧
      OKFields sX (sX.md 0) [.many [a, b], .many [c, d], .one (.num 5)] :=
  have pair {emd : MD} {x y : V} (sx : EntryOK emd x) (sy : EntryOK emd y)
      (k : keyEq (canonKey emd x) (canonKey emd y) = false) :
      (∀ e ∈ [x, y], EntryOK emd e) ∧ KeysDistinct emd [x, y] :=
    ⟨List.forall_mem_cons.mpr ⟨sx, List.forall_mem_singleton.mpr sy⟩,
      List.pairwise_cons.mpr ⟨List.forall_mem_singleton.mpr k, List.pairwise_singleton ..⟩⟩
  have hwf : WFsM sX (sX.md 0) [.many [a, b], .many [c, d], .one (.num 5)] :=
    ⟨⟨.inr ⟨rfl, pair sa sb kab⟩, validTag_1, ha.1, hb.1, trivial⟩,
      ⟨.inr ⟨rfl, pair sc sd kcd⟩, validTag_2, hc.1, hd.1, trivial⟩,
      ⟨rfl, ⟨validTag_3, trivial⟩, trivial⟩,
      trivial⟩
  have hok : OKFields sX (sX.md 0) [.many [a, b], .many [c, d], .one (.num 5)] :=
    ⟨⟨validTag_1, ha.2, hb.2, trivial⟩,
      ⟨validTag_2, hc.2, hd.2, trivial⟩,
      ⟨validTag_3, trivial⟩,
      trivial⟩
  ⟨hwf, hok⟩

theorem good_fsX : WFsM sX (sX.md 0) fsX ∧ OKFields sX (sX.md 0) fsX :=
  good_top eB eA e8 e7 good_eB good_eA (.inl (entrySet_pair _ _)) (.inl (entrySet_pair _ _)) keysAB.2 good_e8 good_e7
    (.inl (entrySet_pair _ _)) (.inl (entrySet_pair _ _)) keys78.2
theorem good_gsX : WFsM sX (sX.md 0) gsX ∧ OKFields sX (sX.md 0) gsX :=
  good_top eA eB e7 e8 good_eA good_eB (.inl (entrySet_pair _ _)) (.inl (entrySet_pair _ _)) keysAB.1 good_e7 good_e8
    (.inl (entrySet_pair _ _)) (.inl (entrySet_pair _ _)) keys78.1

theorem ops_fsX : ∃ ops, opsFields sX (sX.md 0) fsX = .ok ops := ⟨_, rfl⟩
theorem ops_gsX : ∃ ops, opsFields sX (sX.md 0) gsX = .ok ops := ⟨_, rfl⟩

/-- the two values are the same message with its maps iterated in different orders -/
theorem permX : MapsPermuted (sX.md 0) fsX gsX :=
  ⟨rfl, fun
    | 0, _, h => .inr ⟨by cases h; rfl, _, _, rfl, rfl, .swap ..⟩
    | 1, _, h => .inr ⟨by cases h; rfl, _, _, rfl, rfl, .swap ..⟩
    | _ + 2, _, _ => .inl rfl⟩

/-- non-vacuity of `roundtrip_maps`: a `map<string,int32>` with two entries (one value negative), a
    `map<int32,Inner>` with two entries whose values are messages (one of which contains a map itself, the
    other empty), a scalar, and an unknown field — in fast mode -/
theorem roundtrip_maps_example : ∃ ops, opsFields sX (sX.md 0) fsX = .ok ops ∧
    unmarshal sX true (sX.md 0) (Gen.wiresOf ops ++ Csproto.wiresOf [.varint 9 300])
      = .ok (canonFs sX (sX.md 0) fsX, Csproto.wiresOf [.varint 9 300]) := by
  obtain ⟨ops, ho⟩ := ops_fsX
  refine ⟨ops, ho, roundtrip_maps sX schemaX_ok true 0 fsX [.varint 9 300] ops good_fsX.1 (exclX 0 _) good_fsX.2 ?_ ho⟩
  exact List.forall_mem_singleton.mpr ⟨(by decide : 1 ≤ 9 ∧ 9 ≤ maxTagValue ∧ 300 < two64), rfl⟩

/-- 7 ↦ nil -/
def e7nil : V := .msg [.one (.num 7), .unset] []
/-- `b = { 7: nil, 8: {} }` -/
def fsN : List F := [.many [eB, eA], .many [e7nil, e8], .one (.num 5)]
/-- the same message without the nil-valued entry -/
def fsN' : List F := [.many [eB, eA], .many [e8], .one (.num 5)]

theorem good_e7nil : Good 2 e7nil :=
  good_intro 2 _
    (hwf := ⟨⟨rfl, ⟨validTag_1, trivial⟩, trivial⟩,
      trivial,
      trivial⟩)
    (hok := ⟨⟨validTag_1, trivial⟩,
      trivial,
      trivial⟩)
    (ho := ⟨_, rfl⟩) (hs := by decide)

theorem good_fsN : WFsM sX (sX.md 0) fsN ∧ OKFields sX (sX.md 0) fsN :=
  good_top eB eA e7nil e8 good_eB good_eA (.inl (entrySet_pair _ _)) (.inl (entrySet_pair _ _)) keysAB.2 good_e7nil good_e8
    (.inr (by decide)) (.inl (entrySet_pair _ _)) (by decide)

theorem ops_fsN : ∃ ops, opsFields sX (sX.md 0) fsN = .ok ops := ⟨_, rfl⟩

/-- the entry `7 ↦ nil` costs nothing and is not written: same `Size()`, same encoder calls, same `Marshal()`
    outcome as the message without it … -/
theorem nil_entry_example_marshal :
    sizeFields sX (sX.md 0) fsN = sizeFields sX (sX.md 0) fsN' ∧
    opsFields sX (sX.md 0) fsN = opsFields sX (sX.md 0) fsN' ∧
    marshal sX (sX.md 0) fsN [] = marshal sX (sX.md 0) fsN' [] := by
  have h1 : sizeFields sX (sX.md 0) fsN = sizeFields sX (sX.md 0) fsN' := rfl
  have h2 : opsFields sX (sX.md 0) fsN = opsFields sX (sX.md 0) fsN' := rfl
  refine ⟨h1, h2, ?_⟩
  unfold marshal marshalSized
  rw [h1, h2]

/-- … and after the round trip the map is `{ 8: {} }`: key 7 is gone (non-vacuity of `roundtrip_maps` and of
    `roundtrip_drops_nil_valued_entries` on a value with a nil-valued entry) -/
theorem nil_entry_example_roundtrip : ∃ ops, opsFields sX (sX.md 0) fsN = .ok ops ∧
    unmarshal sX false (sX.md 0) (Gen.wiresOf ops) = .ok (fsN', []) := by
  obtain ⟨ops, ho⟩ := ops_fsN
  -- normalisation drops the nil-valued entry and changes nothing else
  have hc : canonFs sX (sX.md 0) fsN = fsN' := rfl
  refine ⟨ops, ho, ?_⟩
  rw [← hc]
  exact roundtrip_map_known sX schemaX_ok false 0 fsN ops good_fsN.1 (exclX 0 _) good_fsN.2 ho

/-- non-vacuity of `roundtrip_order_independent`: the two iteration orders give two different byte
    strings, both decode, and the results have the same lookup function on every map field -/
theorem order_independent_example : ∃ opsF opsG d1 d2,
    opsFields sX (sX.md 0) fsX = .ok opsF ∧ opsFields sX (sX.md 0) gsX = .ok opsG ∧
    Gen.wiresOf opsF ≠ Gen.wiresOf opsG ∧
    unmarshal sX false (sX.md 0) (Gen.wiresOf opsF) = .ok (d1, []) ∧
    unmarshal sX false (sX.md 0) (Gen.wiresOf opsG) = .ok (d2, []) ∧
    MapsPermuted (sX.md 0) d1 d2 ∧
    ∀ (j : Nat) (fd : FD) (es1 es2 : List V), (sX.md 0)[j]? = some fd → fd.card = .map →
      d1[j]? = some (.many es1) → d2[j]? = some (.many es2) → ∀ k, mapGet es1 k = mapGet es2 k := by
  obtain ⟨opsF, hoF⟩ := ops_fsX
  obtain ⟨opsG, hoG⟩ := ops_gsX
  obtain ⟨d1, d2, h1, h2, h3, h4⟩ := roundtrip_order_independent sX schemaX_ok false 0 fsX gsX opsF opsG permX
    good_fsX.1 (exclX 0 _) good_fsX.2 hoF good_gsX.1 (exclX 0 _) good_gsX.2 hoG
  refine ⟨opsF, opsG, d1, d2, hoF, hoG, fun heq => ?_, h1, h2, h3, h4⟩
  -- equal bytes would decode to equal messages, and nothing is normalised away in either value
  have hcF : canonFs sX (sX.md 0) fsX = fsX := rfl
  have hcG : canonFs sX (sX.md 0) gsX = gsX := rfl
  have hF := roundtrip_map_known sX schemaX_ok false 0 fsX opsF good_fsX.1 (exclX 0 _) good_fsX.2 hoF
  rw [heq, roundtrip_map_known sX schemaX_ok false 0 gsX opsG good_gsX.1 (exclX 0 _) good_gsX.2 hoG, hcF, hcG] at hF
  -- `hF : .ok (fsX, []) = .ok (gsX, [])`, but `fsX` begins with the entry `eB` and `gsX` with `eA`
  cases hF

/-- order independence, any depth (`SameFs`: equal up to the order of map entries anywhere in the value
    tree — top level, nested and repeated messages, message values of maps) -/
theorem roundtrip_order_independent_deep (S : Schema) (hS : SchemaOKM S) (fast : Bool) (i : Nat) (fs gs : List F)
    (opsF opsG : List EncOp) (hsame : SameFs S (S.md i) fs gs)
    (hwfF : WFsM S (S.md i) fs) (hexF : Excl (S.md i) fs) (hokF : OKFields S (S.md i) fs)
    (hoF : opsFields S (S.md i) fs = .ok opsF)
    (hwfG : WFsM S (S.md i) gs) (hexG : Excl (S.md i) gs) (hokG : OKFields S (S.md i) gs)
    (hoG : opsFields S (S.md i) gs = .ok opsG) :
    ∃ d1 d2, unmarshal S fast (S.md i) (Gen.wiresOf opsF) = .ok (d1, []) ∧
      unmarshal S fast (S.md i) (Gen.wiresOf opsG) = .ok (d2, []) ∧ SameFs S (S.md i) d1 d2 :=
  roundtrip_same S hS fast i fs gs opsF opsG hsame hwfF hexF hokF hoF hwfG hexG hokG hoG

/-- the two example values are related (both maps swapped) … -/
theorem sameX : SameFs sX (sX.md 0) fsX gsX :=
  .cons (.map rfl rfl (.swap _ eB eA [])) (.cons (.map rfl rfl (.swap _ e8 e7 [])) (.refl _ _))

/-- … and so is a reordering two levels down: inside the message value of an entry of the outer map -/
example (u v : V) : SameFs sX (sX.md 0)
    [.many [], .many [.msg [.one (.num 7), .one (.msg [.unset, .many [u, v]] [])] []], .one (.num 0)]
    [.many [], .many [.msg [.one (.num 7), .one (.msg [.unset, .many [v, u]] [])] []], .one (.num 0)] := by
  -- message 0: the second field is the map whose one entry differs
  refine .cons (.refl _ _) (.cons (.map (i := 2) rfl rfl (.cons (.msg [] ?_) (.nil _))) (.refl _ _))
  -- its entry (message 2): the value is an `Inner`
  refine .cons (.refl _ _) (.cons (.one (i := 3) rfl (.msg [] ?_)) (.refl _ _))
  -- `Inner` (message 3): the two entries of its map swapped
  exact .cons (.refl _ _) (.cons (.map (i := 1) rfl rfl (.swap _ u v [])) (.refl _ _))

theorem order_independent_deep_example : ∃ opsF opsG d1 d2,
    opsFields sX (sX.md 0) fsX = .ok opsF ∧ opsFields sX (sX.md 0) gsX = .ok opsG ∧
    unmarshal sX true (sX.md 0) (Gen.wiresOf opsF) = .ok (d1, []) ∧
    unmarshal sX true (sX.md 0) (Gen.wiresOf opsG) = .ok (d2, []) ∧ SameFs sX (sX.md 0) d1 d2 := by
  obtain ⟨opsF, hoF⟩ := ops_fsX
  obtain ⟨opsG, hoG⟩ := ops_gsX
  obtain ⟨d1, d2, h⟩ := roundtrip_order_independent_deep sX schemaX_ok true 0 fsX gsX opsF opsG sameX
    good_fsX.1 (exclX 0 _) good_fsX.2 hoF good_gsX.1 (exclX 0 _) good_gsX.2 hoG
  exact ⟨opsF, opsG, d1, d2, hoF, hoG, h⟩

end Csproto.C05Map
