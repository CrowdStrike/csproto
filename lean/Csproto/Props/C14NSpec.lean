import Csproto.Props.C14
/-
  C14 with nested results, the claim: the specification machine `NSpec`, the API contract, and the machine
  extended by explicit pool choices behind `FieldData(path…)`.

  `NSpec` is a pool-free description of what a client may observe when it also calls `NestedResult`,
  `NestedResults` and multi-element `FieldData` paths: a handle is a nil result, a live result that is
  described by *the bytes it was decoded from* and the decoder node (`path`) that decoded them, or closed.
  Every answer is computed from those bytes alone by a brand-new object.  Closing a root handle closes
  every nested handle that was (transitively) created from it (`gen` names the root decode they descend from).

  The contract (`NOpOK`): no accessor / Range / NestedResult(s) on a closed handle; `Close` on a closed handle
  only as the immediate repetition of the root `Close`; `Close` on a live nested handle is allowed (and has no
  effect); handles may be overwritten; a `.new` choice names an unused object id below the machine's counter for
  invisible objects, a `.reuse` choice any object currently in the pool of the decoder node that decodes.
-/
namespace Csproto.C14N
open Csproto Csproto.C14

inductive NH where
  | nilRes
  | live (bytes : Bytes) (path : List Nat) (gen : Nat)
  | closed
deriving DecidableEq

structure NSpec where
  root : LDec
  handles : List (Nat × NH)
  justClosed : Option Nat
  gen : Nat                      -- number of root results created so far (names the next one)

def NSpec.init (root : LDec) : NSpec := { root := root, handles := [], justClosed := none, gen := 0 }

def NSpec.handle? (sp : NSpec) (h : Nat) : Option NH := (sp.handles.find? (·.1 = h)).map (·.2)
def NSpec.setHandle (sp : NSpec) (h : Nat) (v : NH) : NSpec :=
  { sp with handles := (h, v) :: sp.handles.filter (·.1 ≠ h) }
def NSpec.clr (sp : NSpec) : NSpec := { sp with justClosed := none }

/-- what a brand-new object of the decoder node at `p` holds after decoding `b` -/
def view (root : LDec) (p : List Nat) (b : Bytes) : Option (LDec × List FD) :=
  match decAt root p with
  | none => none
  | some node =>
    match decodeInto node.flat (cleanFds node.flat.length) b with
    | .ok fds => some (node, fds)
    | _ => none

/-- the outcome of decoding the sub-message `pb` with a brand-new object of decoder `sub` -/
def subOut (sub : LDec) (pb : Bytes) : LOut :=
  if pb.isEmpty then .nil else
  match decodeInto sub.flat (cleanFds sub.flat.length) pb with
  | .ok _ => .ok
  | .err => .err
  | .panic => .panic

def closeGen (g : Nat) : NH → NH
  | .live b p g' => if g' = g then .closed else .live b p g'
  | v => v

/-- closing the root result of generation `g` closes every handle that descends from it -/
def NSpec.closeAll (sp : NSpec) (g : Nat) : NSpec :=
  { sp with handles := sp.handles.map fun e => (e.1, closeGen g e.2) }

def specNesteds (sub : LDec) (p : List Nat) (t g : Nat) :
    NSpec → List Bytes → List Nat → List Choice → List Bool → NSpec × LOut
  | sp, [], _, _, acc => (sp, .many acc)
  | sp, b :: bs, h :: hs, _ :: cs, acc =>
    match subOut sub b with
    | .ok => specNesteds sub p t g (sp.setHandle h (.live b (p ++ [t]) g)) bs hs cs (acc ++ [true])
    | .nil => specNesteds sub p t g (sp.setHandle h .nilRes) bs hs cs (acc ++ [false])
    | out => (sp, out)
  | sp, _, _, _, _ => (sp, .badHandle)

/-- the specification: every answer is computed from the handle's own bytes by a brand-new object -/
def NSpec.step (sp : NSpec) : LOp → NSpec × LOut
  | .decode h input _ =>
    if input.isEmpty then ((sp.setHandle h .nilRes).clr, .nil) else
    match fresh sp.root input with
    | .ok _ => ({ (sp.setHandle h (.live input [] sp.gen)).clr with gen := sp.gen + 1 }, .ok)
    | .err => (sp.clr, .err)
    | .panic => (sp.clr, .panic)
  | .acc h path a =>
    (sp.clr,
     match sp.handle? h with
     | none => .badHandle
     | some .closed => .badHandle
     | some .nilRes => .ans (lookupPath (path.length + 1) sp.root none (path.map Int.natAbs) a)
     | some (.live b p _) =>
       match view sp.root p b with
       | some (node, fds) => .ans (lookupPath (path.length + 1) node (some fds) (path.map Int.natAbs) a)
       | none => .ans .panic)
  | .range h =>
    (sp.clr,
     match sp.handle? h with
     | none => .badHandle
     | some .closed => .badHandle
     | some .nilRes => .tags []
     | some (.live b p _) =>
       match view sp.root p b with
       | some (node, fds) => .tags (tagsOf node fds)
       | none => .panic)
  | .close h =>
    match sp.handle? h with
    | none => (sp.clr, .badHandle)
    | some .nilRes => (sp.clr, .ok)
    | some (.live _ p g) =>
      if p.isEmpty then ({ sp.closeAll g with justClosed := some h }, .ok)   -- a root result
      else (sp.clr, .ok)                                                       -- `Close` on a nested result has no effect
    | some .closed => (sp, .ok)
  | .nested h tag h' _ =>
    match sp.handle? h with
    | none => (sp.clr, .badHandle)
    | some .closed => (sp.clr, .badHandle)
    | some .nilRes => (sp.clr, .ans .notDefined)
    | some (.live b p g) =>
      match view sp.root p b with
      | none => (sp.clr, .panic)
      | some (node, fds) =>
        match nestedSelect node fds tag.natAbs with
        | .ans a => (sp.clr, .ans a)
        | .payload sub pb =>
          match subOut sub pb with
          | .ok => ((sp.setHandle h' (.live pb (p ++ [tag.natAbs]) g)).clr, .ok)
          | .nil => ((sp.setHandle h' .nilRes).clr, .nil)
          | out => (sp.clr, out)
  | .nesteds h tag hs cs =>
    match sp.handle? h with
    | none => (sp.clr, .badHandle)
    | some .closed => (sp.clr, .badHandle)
    | some .nilRes => (sp.clr, .ans .notDefined)
    | some (.live b p g) =>
      match view sp.root p b with
      | none => (sp.clr, .panic)
      | some (node, fds) =>
        let t := tag.natAbs
        if node.nested.isEmpty then (sp.clr, .ans .notDefined) else
        match node.sub t, idxOf? node.flat t with
        | none, _ => (sp.clr, .ans .notDefined)
        | _, none => (sp.clr, .ans .notDefined)
        | some sub, some i =>
          match fds[i]? with
          | none => (sp.clr, .panic)
          | some fd =>
            if fd.data.isEmpty then (sp.clr, .ans .notFound)
            else specNesteds sub p t g sp.clr fd.data hs cs []

@[simp] theorem nhandle_setHandle (sp : NSpec) (h h' : Nat) (v : NH) :
    (sp.setHandle h v).handle? h' = if h' = h then some v else sp.handle? h' := find_set _ _ _ _

theorem nhandle_closeAll (sp : NSpec) (g h : Nat) : (sp.closeAll g).handle? h = (sp.handle? h).map (closeGen g) := by
  unfold NSpec.closeAll NSpec.handle?
  simp only
  generalize sp.handles = l
  induction l with
  | nil => rfl
  | cons e l ih =>
    simp only [List.map_cons, List.find?_cons]
    by_cases he : e.1 = h
    · simp [he]
    · simp only [he, decide_false]; exact ih

theorem clr_clr (sp : NSpec) : sp.clr.clr = sp.clr := rfl

theorem clr_of_none {sp : NSpec} (h : sp.justClosed = none) : sp.clr = sp := by
  cases sp; simp only [NSpec.clr] at h ⊢; subst h; rfl

theorem setHandle_clr {sp : NSpec} (hjc : sp.justClosed = none) (h : Nat) (v : NH) :
    (sp.setHandle h v).clr = sp.setHandle h v := clr_of_none hjc

/-! ## the API contract -/

/-- the common core of `NestedResult` and of one round of `NestedResults` -/
def attach (s : LState) (id : Nat) (pth : List Nat) (b : Bytes) (c : Choice) : LState × LOut × Option (Option Nat) :=
  match decodeWithPool s pth b c with
  | (s1, .res nid) =>
    match s1.obj? nid, s1.obj? id with
    | some no, some o1 =>
      ((s1.setObj nid { no with skipClose := true }).setObj id { o1 with closers := o1.closers ++ [nid] }, .ok, some (some nid))
    | _, _ => (s1, .panic, none)
  | (s1, .nil) => (s1, .nil, some none)
  | (s1, .err) => (s1, .err, none)
  | (s1, .panic) => (s1, .panic, none)
  | (s1, .notPooled) => (s1, .notPooled, none)

theorem attach_nil (s : LState) (id : Nat) (pth : List Nat) (b : Bytes) (c : Choice) (hb : b.isEmpty = true) :
    attach s id pth b c = (s, .nil, some none) := by
  simp [attach, decodeWithPool, hb]

theorem nestedResult_ans {s : LState} {id tag : Nat} {o : LObj} {node : LDec} {x : Ans} (c : Choice)
    (ho : s.obj? id = some o) (hn : decAt s.root o.path = some node) (hsel : nestedSelect node o.fds tag = .ans x) :
    nestedResult s id tag c = (s, .ans x, none) := by
  simp only [nestedResult, ho, hn, hsel]

theorem nestedResult_payload {s : LState} {id tag : Nat} {o : LObj} {node sub : LDec} {pb : Bytes} (c : Choice)
    (ho : s.obj? id = some o) (hn : decAt s.root o.path = some node)
    (hsel : nestedSelect node o.fds tag = .payload sub pb) :
    nestedResult s id tag c = attach s id (o.path ++ [tag]) pb c := by
  simp only [nestedResult, ho, hn, hsel]; rfl

/-- a choice the pool of node `pth` can make: a brand-new object (client-visible ids stay below the
    counter the machine uses for the results it allocates behind `FieldData(path…)`), or any pooled one -/
def ChoiceOKN (s : LState) (pth : List Nat) : Choice → Prop
  | .new id => s.obj? id = none ∧ id < s.anon
  | .reuse id => id ∈ s.pool pth

def nestedsRound (s : LState) (id : Nat) (pth : List Nat) (b : Bytes) (h : Nat) (c : Choice) : LState × LOut :=
  match attach s id pth b c with
  | (s1, out, some v) => (s1.setHandle h v, out)
  | (s1, out, none) => (s1, out)

theorem nestedResults_cons (s : LState) (id tag : Nat) (b : Bytes) (bs : List Bytes) (h : Nat) (hs : List Nat)
    (c : Choice) (cs : List Choice) (acc : List Bool) (o : LObj) (ho : s.obj? id = some o) :
    nestedResults s id tag (b :: bs) (h :: hs) (c :: cs) acc =
      match nestedsRound s id (o.path ++ [tag]) b h c with
      | (s', .ok) => nestedResults s' id tag bs hs cs (acc ++ [true])
      | (s', .nil) => nestedResults s' id tag bs hs cs (acc ++ [false])
      | (s', out) => (s', out) := by
  rw [nestedResults]
  simp only [ho, nestedsRound, attach]
  rcases hdw : decodeWithPool s (o.path ++ [tag]) b c with ⟨s1, out⟩
  cases out with
  | res nid =>
    simp only []
    cases h1 : s1.obj? nid with
    | none => rfl
    | some no =>
      cases h2 : s1.obj? id with
      | none => rfl
      | some o1 => rfl
  | nil => rfl
  | err => rfl
  | panic => rfl
  | notPooled => rfl

/-- the pool's choices during `NestedResults`: each one is possible in the state it is made in -/
def NestedsOK (id : Nat) (pth : List Nat) : LState → List Bytes → List Nat → List Choice → Prop
  | s, b :: bs, h :: hs, c :: cs =>
    (b.isEmpty = false → ChoiceOKN s pth c) ∧ NestedsOK id pth (nestedsRound s id pth b h c).1 bs hs cs
  | _, _, _, _ => True

/-- the sub-message `NestedResult(t)` on handle `h` decodes, if it decodes one -/
def NSpec.payload? (sp : NSpec) (h : Nat) (t : Nat) : Option (List Nat × Bytes) :=
  match sp.handle? h with
  | some (.live b p _) =>
    match view sp.root p b with
    | some (node, fds) =>
      match nestedSelect node fds t with
      | .payload _ pb => if pb.isEmpty then none else some (p ++ [t], pb)
      | _ => none
    | none => none
  | _ => none

/-- the API contract for one operation: no use after `Close` — of the result itself or, for a nested
    result, of the root result it descends from (an immediately repeated `Close` excepted) — and the
    pool's choices are choices it can make -/
def NOpOK (s : LState) (sp : NSpec) : LOp → Prop
  | .decode _ input c => input.isEmpty = false → ChoiceOKN s [] c
  | .acc h _ _ => sp.handle? h ≠ some .closed
  | .range h => sp.handle? h ≠ some .closed
  | .close h => sp.handle? h = some .closed → sp.justClosed = some h
  | .nested h tag _ c => sp.handle? h ≠ some .closed ∧
      ∀ pth pb, sp.payload? h tag.natAbs = some (pth, pb) → ChoiceOKN s pth c
  | .nesteds h tag hs cs => sp.handle? h ≠ some .closed ∧
      ∀ id o node i fd, s.handle? h = some (some id) → s.obj? id = some o → decAt s.root o.path = some node →
        idxOf? node.flat tag.natAbs = some i → o.fds[i]? = some fd →
        NestedsOK id (o.path ++ [tag.natAbs]) s fd.data hs cs

def NSpec.outputs (sp : NSpec) : List LOp → List LOut
  | [] => []
  | op :: ops => (sp.step op).2 :: NSpec.outputs (sp.step op).1 ops

def NHistOK (s : LState) (sp : NSpec) : List LOp → Prop
  | [] => True
  | op :: ops => NOpOK s sp op ∧ NHistOK (s.step op).1 (sp.step op).1 ops

/-! ## pool choices behind `FieldData(path…)`

  `accPath` in `Model/Pool.lean` lets the nested results that a multi-element path allocates always be
  brand-new objects (`Choice.new s.anon`), whereas the implementation's `FieldData` calls `NestedResult`,
  whose `pool.Get()` may equally hand out a recycled object.  `accPathC` is `accPath` with those choices
  made explicit (an empty choice list gives `accPath` itself); the extended machine `xstep` adds the
  operation `accC`. -/

theorem lookupPath_single (fuel : Nat) (dec : LDec) (fds : List FD) (tag : Nat) (a : Acc) :
    lookupPath (fuel + 1) dec (some fds) [tag] a = accessTag dec fds tag a := by
  rw [lookupPath]

theorem lookupPath_cons2 (fuel : Nat) (dec : LDec) (fds : List FD) (tag t2 : Nat) (rest : List Nat) (a : Acc) :
    lookupPath (fuel + 1) dec (some fds) (tag :: t2 :: rest) a =
      match nestedSelect dec fds tag with
      | .ans x => x
      | .payload sub b =>
        if b.isEmpty then lookupPath fuel sub none (t2 :: rest) a else
        match decodeInto sub.flat (cleanFds sub.flat.length) b with
        | .ok fds' => lookupPath fuel sub (some fds') (t2 :: rest) a
        | .err => .err
        | .panic => .panic := by
  rw [lookupPath]
  · rfl
  · intro h; cases h

theorem accPath_succ (fuel : Nat) (s : LState) (id tag : Nat) (rest : List Nat) (a : Acc) (o : LObj) (node : LDec)
    (ho : s.obj? id = some o) (hn : decAt s.root o.path = some node) :
    accPath (fuel + 1) s (some id) (tag :: rest) a =
      if rest.isEmpty then (s, accessTag node o.fds tag a) else
      match nestedResult s id tag (.new s.anon) with
      | (s1, out, r) =>
        match out, r with
        | .ok, some nxt => accPath fuel { s1 with anon := s1.anon + 1 } nxt rest a
        | .nil, some nxt => accPath fuel { s1 with anon := s1.anon + 1 } nxt rest a
        | .ans x, _ => ({ s1 with anon := s1.anon + 1 }, x)
        | .err, _ => ({ s1 with anon := s1.anon + 1 }, .err)
        | _, _ => ({ s1 with anon := s1.anon + 1 }, .panic) := by
  rw [accPath]
  simp only [ho, hn]
  rfl

theorem accPath_none (fuel : Nat) (s : LState) (path : List Nat) (a : Acc) (dec : LDec) :
    accPath fuel s none path a = (s, lookupPath fuel dec none path a) := by
  cases fuel with
  | zero => simp [accPath, lookupPath]
  | succ n =>
    cases path with
    | nil => simp [accPath, lookupPath]
    | cons t ts => simp [accPath, lookupPath]

def accPathC : Nat → LState → Option Nat → List Nat → Acc → List Choice → LState × Ans
  | fuel, s, r, path, a, [] => accPath fuel s r path a
  | 0, s, _, _, _, _ :: _ => (s, .err)
  | _ + 1, s, _, [], _, _ :: _ => (s, .err)
  | _ + 1, s, none, _ :: _, _, _ :: _ => (s, .notDefined)
  | fuel + 1, s, some id, tag :: rest, a, c :: cs =>
    match s.obj? id with
    | none => (s, .panic)
    | some o =>
      match decAt s.root o.path with
      | none => (s, .panic)
      | some node =>
        if rest.isEmpty then (s, accessTag node o.fds tag a) else
        match nestedResult s id tag c with
        | (s1, out, r) =>
          match out, r with
          | .ok, some nxt => accPathC fuel s1 nxt rest a cs
          | .nil, some nxt => accPathC fuel s1 nxt rest a cs
          | .ans x, _ => (s1, x)
          | .err, _ => (s1, .err)
          | _, _ => (s1, .panic)

theorem accPathC_nil (fuel : Nat) (s : LState) (r : Option Nat) (path : List Nat) (a : Acc) :
    accPathC fuel s r path a [] = accPath fuel s r path a := by
  cases fuel <;> simp [accPathC]

theorem accPathC_none (fuel : Nat) (s : LState) (path : List Nat) (a : Acc) (cs : List Choice) (dec : LDec) :
    accPathC fuel s none path a cs = (s, lookupPath fuel dec none path a) := by
  cases cs with
  | nil => rw [accPathC_nil]; exact accPath_none fuel s path a dec
  | cons c cs =>
    cases fuel with
    | zero => simp [accPathC, lookupPath]
    | succ n =>
      cases path with
      | nil => simp [accPathC, lookupPath]
      | cons t ts => simp [accPathC, lookupPath]

theorem accPathC_succ (fuel : Nat) (s : LState) (id tag : Nat) (rest : List Nat) (a : Acc) (c : Choice) (cs : List Choice)
    (o : LObj) (node : LDec) (ho : s.obj? id = some o) (hn : decAt s.root o.path = some node) :
    accPathC (fuel + 1) s (some id) (tag :: rest) a (c :: cs) =
      if rest.isEmpty then (s, accessTag node o.fds tag a) else
      match nestedResult s id tag c with
      | (s1, out, r) =>
        match out, r with
        | .ok, some nxt => accPathC fuel s1 nxt rest a cs
        | .nil, some nxt => accPathC fuel s1 nxt rest a cs
        | .ans x, _ => (s1, x)
        | .err, _ => (s1, .err)
        | _, _ => (s1, .panic) := by
  rw [accPathC]
  simp only [ho, hn]

/-- the explicit choices are choices the nested pools can make, each in the state it is made in -/
def AccCOK : Nat → LState → Option Nat → List Nat → List Choice → Prop
  | fuel + 1, s, some id, tag :: t2 :: rest, c :: cs =>
    ∀ o node, s.obj? id = some o → decAt s.root o.path = some node →
      (∀ sub pb, nestedSelect node o.fds tag = .payload sub pb → pb.isEmpty = false → ChoiceOKN s (o.path ++ [tag]) c) ∧
      match nestedResult s id tag c with
      | (s1, _, some nxt) => AccCOK fuel s1 nxt (t2 :: rest) cs
      | _ => True
  | _, _, _, _, _ => True

/-- the operations of `LState.step`, plus `FieldData(path…)` + accessor with explicit pool choices -/
inductive XOp where
  | base (op : LOp)
  | accC (h : Nat) (path : List Int) (a : Acc) (cs : List Choice)

def xstep (s : LState) : XOp → LState × LOut
  | .base op => s.step op
  | .accC h path a cs =>
    match s.handle? h with
    | none => (s, .badHandle)
    | some r =>
      let (s1, x) := accPathC (path.length + 1) s r (path.map Int.natAbs) a cs
      (s1, .ans x)

/-- with no explicit choices `accC` is the model's `acc` -/
theorem xstep_accC_nil (s : LState) (h : Nat) (path : List Int) (a : Acc) :
    xstep s (.accC h path a []) = s.step (.acc h path a) := by
  simp only [xstep, LState.step, accPathC_nil]
  cases s.handle? h <;> rfl

/-- the specification does not see the choices -/
def NSpec.xstep (sp : NSpec) : XOp → NSpec × LOut
  | .base op => sp.step op
  | .accC h path a _ => sp.step (.acc h path a)

def XOpOK (s : LState) (sp : NSpec) : XOp → Prop
  | .base op => NOpOK s sp op
  | .accC h path _ cs => sp.handle? h ≠ some .closed ∧
      ∀ r, s.handle? h = some r → AccCOK (path.length + 1) s r (path.map Int.natAbs) cs

def xoutputs (s : LState) : List XOp → List LOut
  | [] => []
  | op :: ops => (xstep s op).2 :: xoutputs (xstep s op).1 ops

def NSpec.xoutputs (sp : NSpec) : List XOp → List LOut
  | [] => []
  | op :: ops => (sp.xstep op).2 :: NSpec.xoutputs (sp.xstep op).1 ops

def XHistOK (s : LState) (sp : NSpec) : List XOp → Prop
  | [] => True
  | op :: ops => XOpOK s sp op ∧ XHistOK (xstep s op).1 (sp.xstep op).1 ops

/-- a history of the model's own operations is a history of the extended machine -/
theorem base_history (ops : List LOp) : ∀ (s : LState) (sp : NSpec), xoutputs s (ops.map .base) = outputs s ops ∧
    sp.xoutputs (ops.map .base) = sp.outputs ops ∧ (NHistOK s sp ops → XHistOK s sp (ops.map .base)) := by
  induction ops with
  | nil => exact fun _ _ => ⟨rfl, rfl, id⟩
  | cons op ops ih =>
    intro s sp
    obtain ⟨h1, h2, h3⟩ := ih (s.step op).1 (sp.step op).1
    exact ⟨congrArg (_ :: ·) h1, congrArg (_ :: ·) h2, fun h => ⟨h.1, h3 h.2⟩⟩

end Csproto.C14N
