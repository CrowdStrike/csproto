import Csproto.Bridge.Aliasing
import Csproto.Bridge.Templates
import Csproto.Model.GenDec
/-
  C10 — Safe-mode decoding never aliases the caller's buffer.

  Model: a decoded message is a collection of variable-length *components* (string, bytes,
  repeated-bytes elements, map keys/values, oneof members, extension values, unknown-field bytes, and
  the same inside nested messages; for lazyproto: every accessor's view of the field data).  Each is
  either `own b` — freshly allocated memory holding `b` — or `view start len` — a window onto a buffer.
  Overwriting, truncating or recycling the caller's buffer is `clobber`: it replaces the buffer seen by
  the views by an arbitrary other one.

  Which kind a storage site produces is a table (`siteCopies`) whose entries are *regenerated facts*:
  `DecodeString` converts with `string(b)` unless the mode is fast (decoder.go); every `DecodeBytes`
  result a snippet stores is copied when `dec.Mode() == DecoderModeSafe` (templates); skipped fields
  are `append`ed to the message's own slice; lazyproto decodes a `slices.Clone` of the input in safe
  mode, so its views are windows onto memory the caller never had.

  * `safe_mode_owns_everything` — in safe mode every site produces `own`;
  * `clobber_invariant`         — hence a message decoded in safe mode reads the same after any clobber;
  * `fast_mode_aliases`         — in fast mode the string/bytes sites do alias (the documented opt-in),
                                  and a clobber is observable — the theorem is not vacuous.
-/
namespace Csproto.C10
open Csproto

inductive Comp where
  | own (b : Bytes)
  | view (start len : Nat)
deriving Repr, DecidableEq

/-- what the program reads from a component given the current state of the caller's buffer -/
def Comp.read (buf : Bytes) : Comp → Bytes
  | .own b => b
  | .view s l => (buf.drop s).take l

/-- storage sites of the generated `Unmarshal` and of lazyproto -/
inductive Site where
  | stringField | mapKeyString          -- `DecodeString`
  | bytesField | repeatedBytes | mapValueBytes | oneofBytes | extensionBytes   -- `DecodeBytes` + snippet
  | unknownFields                       -- `append(m.unknownFields, skipped...)`
  | lazyFieldData                       -- lazyproto accessors (views onto the decode buffer)
deriving Repr, DecidableEq

/-- does the site copy in the given mode — read off the regenerated facts -/
def siteCopies (fast : Bool) : Site → Bool
  | .stringField | .mapKeyString =>
      if fast then !Generated.decodeStringUnsafeOnlyFast else Generated.decodeStringSafeCopies
  | .bytesField => !fast && Generated.decodeBytesSites.any (fun s => s.1 == "UnmarshalBytes" && s.2 == "copied")
  | .repeatedBytes => !fast && Generated.decodeBytesSites.any (fun s => s.1 == "UnmarshalBytes" && s.2 == "copied")
  | .mapValueBytes => !fast && Generated.decodeBytesSites.any (fun s => s.1 == "UnmarshalMapEntry" && s.2 == "copied")
  | .oneofBytes => !fast && Generated.decodeBytesSites.any (fun s => s.1 == "UnmarshalOneOf" && s.2 == "copied")
  | .extensionBytes => !fast && Generated.decodeBytesSites.any (fun s => s.1 == "UnmarshalExtension" && s.2 == "copied")
  | .unknownFields => Generated.unknownHandling.all (fun t => t.2.2.2)
  | .lazyFieldData => !fast && Generated.lazyDecoderClonesInSafeMode && Generated.lazyDecodeFuncClones

/-- the component a site stores for the window `[start, start+len)` of input `input` -/
def store (fast : Bool) (input : Bytes) (site : Site) (start len : Nat) : Comp :=
  if siteCopies fast site then .own ((input.drop start).take len) else .view start len

/-- in safe mode every storage site owns its bytes -/
theorem safe_mode_owns_everything (site : Site) : siteCopies false site = true := by
  have hb := Bridge.Templates.bytes_sites_known
  simp only [List.all_cons, List.all_nil, Bool.and_true, Bool.and_eq_true] at hb
  have hl := Bridge.Aliasing.lazy_inputs_are_cloned
  cases site <;> simp only [siteCopies, Bool.not_false, Bool.true_and, Bool.false_eq_true, if_false]
  case stringField | mapKeyString => exact Bridge.Aliasing.decodeString_copies_in_safe_mode.2
  case bytesField | repeatedBytes => exact hb.1
  case mapValueBytes => exact hb.2.1
  case oneofBytes => exact hb.2.2.1
  case extensionBytes => exact hb.2.2.2
  case unknownFields => exact List.all_eq_true.mpr fun t ht => (Bridge.Templates.unknown_fields_handled t ht).2.2
  case lazyFieldData => rw [hl.1, hl.2]; rfl

/-- a decoded message: its components, each produced by some site from some window of the input -/
def decoded (fast : Bool) (input : Bytes) (parts : List (Site × Nat × Nat)) : List Comp :=
  parts.map fun p => store fast input p.1 p.2.1 p.2.2

/-- a safe-mode message reads exactly the decoded windows, whatever the caller's buffer holds (`buf'` arbitrary) -/
theorem safe_reads_decoded (input buf' : Bytes) (parts : List (Site × Nat × Nat)) :
    (decoded false input parts).map (Comp.read buf') = parts.map fun p => (input.drop p.2.1).take p.2.2 := by
  simp only [decoded, List.map_map]
  apply List.map_congr_left
  intro p _
  simp [Function.comp, store, safe_mode_owns_everything, Comp.read]

/-- what a safe-mode message reads does not depend on the caller's buffer any more: after any
    overwrite / truncation / reuse (`buf'` arbitrary) every component reads as at decode time -/
theorem clobber_invariant (input buf' : Bytes) (parts : List (Site × Nat × Nat)) :
    (decoded false input parts).map (Comp.read buf') = (decoded false input parts).map (Comp.read input) := by
  rw [safe_reads_decoded, safe_reads_decoded]

/-- the opt-in: in fast mode a string field is a window onto the caller's buffer, and overwriting the
    buffer changes what the message reads (so the invariance above is not vacuous) -/
theorem fast_mode_aliases :
    store true [0x0a, 0x02, 0x68, 0x69] .stringField 2 2 = .view 2 2 ∧
    (store true [0x0a, 0x02, 0x68, 0x69] .stringField 2 2).read [0xff, 0xff, 0xff, 0xff] = [0xff, 0xff] ∧
    (store false [0x0a, 0x02, 0x68, 0x69] .stringField 2 2).read [0xff, 0xff, 0xff, 0xff] = [0x68, 0x69] := by
  decide

/-! Where the decoder's mode comes from: other components ran before.

The table above is indexed by the decoder's mode.  The generated `Unmarshal` does
`dec := csproto.NewDecoder(p)` and calls `dec.SetMode(csproto.DecoderModeFast)` only when the code was
generated with `enableunsafedecode=true` (fact `decoderSetup`).  Whether that is the whole story depends on
`NewDecoder`: if it hands out a *recycled* object, the mode is whatever the previous user — lazyproto, which
always switches its internal decoders to fast mode, or any hand-written fast-mode decoder — left in it.
`leftBehind` is everything earlier activity in the process left for reuse (one Boolean per decoder: was it in
fast mode), `fresh` is the regenerated fact that `NewDecoder` returns a newly constructed `Decoder` whose
literal does not mention `mode`. -/

/-- the mode (`true` = fast) of the decoder `NewDecoder` returns, and what is left for later calls -/
def newDecoderMode (fresh : Bool) (leftBehind : List Bool) : Bool × List Bool :=
  if fresh then (false, leftBehind) else
  match leftBehind with
  | [] => (false, [])
  | m :: rest => (m, rest)

/-- the mode the generated `Unmarshal` decodes in -/
def unmarshalMode (fresh unsafeOption : Bool) (leftBehind : List Bool) : Bool :=
  unsafeOption || (newDecoderMode fresh leftBehind).1

/-- whatever ran before, the mode is the user's option (with the `NewDecoder` of the current tree) -/
theorem mode_is_the_option (unsafeOption : Bool) (leftBehind : List Bool) :
    unmarshalMode Generated.newDecoderIsFreshLiteral unsafeOption leftBehind = unsafeOption := by
  have h : Generated.newDecoderIsFreshLiteral = true := Bridge.Aliasing.newDecoder_is_fresh_and_safe.1
  simp [unmarshalMode, newDecoderMode, h]

/-- the clobber invariant for every cross-component history: a message decoded without the unsafe option
    reads the same after any overwrite of the input, whatever other decoders left behind -/
theorem clobber_invariant_after_any_activity (leftBehind : List Bool) (input buf' : Bytes) (parts : List (Site × Nat × Nat)) :
    (decoded (unmarshalMode Generated.newDecoderIsFreshLiteral false leftBehind) input parts).map (Comp.read buf') =
    (decoded (unmarshalMode Generated.newDecoderIsFreshLiteral false leftBehind) input parts).map (Comp.read input) := by
  rw [mode_is_the_option]; exact clobber_invariant input buf' parts

/-- non-vacuity: with a `NewDecoder` that recycles objects without resetting their mode, one fast-mode decoder
    left behind (a finished lazyproto decode) makes the next safe-option `Unmarshal` alias its input -/
theorem recycling_decoders_would_alias :
    unmarshalMode false false [true] = true ∧
    (store (unmarshalMode false false [true]) [0x0a, 0x02, 0x68, 0x69] .stringField 2 2).read [0xff, 0xff, 0xff, 0xff] = [0xff, 0xff] := by
  decide

/-- the regenerated facts behind the table -/
theorem facts :
    (∀ s ∈ Generated.decodeBytesSites, s.2 = "copied" ∨ s.2 = "subdecoder") ∧
    (Generated.decodeStringUnsafeOnlyFast = true ∧ Generated.decodeStringSafeCopies = true) ∧
    (Generated.lazyDecoderClonesInSafeMode = true ∧ Generated.lazyDecodeFuncClones = true) :=
  ⟨Bridge.Templates.bytes_never_aliased_in_safe_mode, Bridge.Aliasing.decodeString_copies_in_safe_mode,
   Bridge.Aliasing.lazy_inputs_are_cloned⟩

/-- … and behind the mode: `NewDecoder` constructs, only `SetMode` writes the mode, the templates call
    `SetMode` only under the unsafe option -/
theorem facts_decoder_mode :
    (Generated.newDecoderIsFreshLiteral = true ∧ Generated.newDecoderLiteralFields.contains "mode" = false ∧
      Generated.decoderModeWriters = ["SetMode"]) ∧
    Generated.decoderSetup = [("singlefile.go.tmpl", true, true), ("permessage.go.tmpl", true, true)] :=
  ⟨Bridge.Aliasing.newDecoder_is_fresh_and_safe, Bridge.Aliasing.generated_decoder_setup⟩

end Csproto.C10
