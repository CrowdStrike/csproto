import Csproto.Proofs.Gen
/-
  C04 — Generated Size, Marshal and MarshalTo agree for every message.

  Model: `Model/Gen.lean` (one arm per template snippet).  For **every** schema, every message type
  of it and every value whose numbers are in their machine ranges (`OKFields`: nothing is assumed about
  which fields are set, zero, empty or nested how deep):

  * `size_exact`      — `Size()` is exactly the number of bytes the encoder calls of `MarshalTo` write
                        (plus the unknown fields);
  * `marshalTo_fills` — running those calls on a caller-supplied buffer of `Size()` bytes does not
                        panic, leaves the cursor at the end (never overrun, never slack) and the buffer
                        holds exactly the fields' wire bytes followed by the unknown fields;
  * `marshal_total`   — `Marshal()` never panics; it returns an error only for a missing required field
                        (C17) and otherwise exactly those bytes, of length `Size()`.
-/
namespace Csproto.C04
open Csproto Csproto.Gen

theorem size_exact (S : Schema) (md : MD) (fs : List F) (unk : Bytes) (ops : List EncOp)
    (hok : OKFields S md fs) (ho : opsFields S md fs = .ok ops) :
    sizeFields S md fs + unk.length = (wiresOf (ops ++ [.raw unk])).length := by
  rw [wiresOf_append, List.length_append, (fields_exact S md fs ops hok ho).1]; simp [wiresOf, EncOp.wire]

theorem marshalTo_fills (S : Schema) (md : MD) (fs : List F) (unk : Bytes) (ops : List EncOp)
    (hok : OKFields S md fs) (ho : opsFields S md fs = .ok ops) :
    ∃ e, (Enc.new (sizeFields S md fs + unk.length)).run (ops ++ [.raw unk]) = .ok e ∧
      e.off = e.cap ∧ e.cap = sizeFields S md fs + unk.length ∧ e.buf = wiresOf ops ++ unk := by
  obtain ⟨e, hr, hfull, hcap, hbuf⟩ := run_fills S md fs unk ops hok ho (Enc.new _) rfl (Enc.new_cap _)
  exact ⟨e, hr, hfull, hcap.trans (Enc.new_cap _), hbuf⟩

theorem marshal_total (S : Schema) (md : MD) (fs : List F) (unk : Bytes) (hok : OKFields S md fs) :
    (marshal S md fs unk = .err ∧ opsFields S md fs = .err) ∨
    ∃ bs, marshal S md fs unk = .ok bs ∧ bs.length = sizeFields S md fs + unk.length ∧
      ((∃ ops, opsFields S md fs = .ok ops ∧ bs = wiresOf ops ++ unk) ∨
       (opsFields S md fs = .err ∧ hasRequired md = false ∧ bs = [])) := by
  unfold marshal marshalSized
  cases ho : opsFields S md fs with
  | panic => exact absurd ho (opsFields_no_panic S md fs)
  | err =>
    split
    · -- the `siz == 0` shortcut (only for types without required fields)
      rename_i hz
      simp only [Bool.and_eq_true, Bool.not_eq_true', decide_eq_true_eq] at hz
      exact Or.inr ⟨[], rfl, hz.2.symm, Or.inr ⟨rfl, hz.1, rfl⟩⟩
    · exact Or.inl ⟨rfl, rfl⟩
  | ok ops =>
    obtain ⟨e, hr, _, hcap, hbuf⟩ := marshalTo_fills S md fs unk ops hok ho
    have hlen : e.buf.length = sizeFields S md fs + unk.length := hcap
    right
    split
    · rename_i hz
      simp only [Bool.and_eq_true, Bool.not_eq_true', decide_eq_true_eq] at hz
      refine ⟨[], rfl, hz.2.symm, Or.inl ⟨ops, rfl, ?_⟩⟩
      rw [← hbuf, List.eq_nil_of_length_eq_zero (hlen.trans hz.2)]
    · exact ⟨e.buf, by simp only [hr], hlen, Or.inl ⟨ops, rfl, hbuf⟩⟩

end Csproto.C04
