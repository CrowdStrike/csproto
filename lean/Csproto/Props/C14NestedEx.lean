import Csproto.Props.C14Nested
/-
  C14 with nested results, non-vacuity: the contract as Boolean functions, so that it can be checked on a
  concrete history by evaluation, and two histories in which a root object, client-visible nested objects and a
  client-invisible one are recycled.
-/
namespace Csproto.C14N
open Csproto Csproto.C14

def choiceOKb (s : LState) (pth : List Nat) : Choice → Bool
  | .new id => (s.obj? id).isNone && decide (id < s.anon)
  | .reuse id => (s.pool pth).contains id

theorem choiceOKb_sound {s : LState} {pth : List Nat} {c : Choice} (h : choiceOKb s pth c = true) : ChoiceOKN s pth c := by
  cases c with
  | new id =>
    simp only [choiceOKb, Bool.and_eq_true, decide_eq_true_eq] at h
    exact ⟨by simpa using h.1, h.2⟩
  | reuse id =>
    simp only [choiceOKb] at h
    exact (by simpa using h : id ∈ s.pool pth)

theorem choiceOKb_or {s : LState} {b : Bytes} {pth : List Nat} {c : Choice} (h : (b.isEmpty || choiceOKb s pth c) = true)
    (hne : b.isEmpty = false) : ChoiceOKN s pth c :=
  choiceOKb_sound (by simpa [hne] using h)

def nestedsOKb (id : Nat) (pth : List Nat) : LState → List Bytes → List Nat → List Choice → Bool
  | s, b :: bs, h :: hs, c :: cs =>
    (b.isEmpty || choiceOKb s pth c) && nestedsOKb id pth (nestedsRound s id pth b h c).1 bs hs cs
  | _, _, _, _ => true

theorem nestedsOKb_sound (id : Nat) (pth : List Nat) : ∀ (s : LState) (data : List Bytes) (hs : List Nat) (cs : List Choice),
    nestedsOKb id pth s data hs cs = true → NestedsOK id pth s data hs cs
  | _, [], _, _, _ => by simp [NestedsOK]
  | _, _ :: _, [], _, _ => by simp [NestedsOK]
  | _, _ :: _, _ :: _, [], _ => by simp [NestedsOK]
  | s, b :: bs, h :: hs, c :: cs, hb => by
    simp only [nestedsOKb, Bool.and_eq_true] at hb
    exact ⟨choiceOKb_or hb.1, nestedsOKb_sound id pth _ bs hs cs hb.2⟩

def nopOKb (s : LState) (sp : NSpec) : LOp → Bool
  | .decode _ input c => input.isEmpty || choiceOKb s [] c
  | .acc h _ _ => decide (sp.handle? h ≠ some .closed)
  | .range h => decide (sp.handle? h ≠ some .closed)
  | .close h => decide (sp.handle? h ≠ some .closed) || decide (sp.justClosed = some h)
  | .nested h tag _ c =>
    decide (sp.handle? h ≠ some .closed) &&
      match sp.payload? h tag.natAbs with
      | some (pth, _) => choiceOKb s pth c
      | none => true
  | .nesteds h tag hs cs =>
    decide (sp.handle? h ≠ some .closed) &&
      match s.handle? h with
      | some (some id) =>
        match s.obj? id with
        | some o =>
          match decAt s.root o.path with
          | some node =>
            match idxOf? node.flat tag.natAbs with
            | some i =>
              match o.fds[i]? with
              | some fd => nestedsOKb id (o.path ++ [tag.natAbs]) s fd.data hs cs
              | none => true
            | none => true
          | none => true
        | none => true
      | _ => true

theorem nopOKb_sound {s : LState} {sp : NSpec} {op : LOp} (h : nopOKb s sp op = true) : NOpOK s sp op := by
  cases op with
  | decode hd input c => exact choiceOKb_or h
  | acc hd path a => simpa [nopOKb, NOpOK] using h
  | range hd => simpa [nopOKb, NOpOK] using h
  | close hd =>
    have h : ¬ sp.handle? hd = some .closed ∨ sp.justClosed = some hd := by simpa [nopOKb] using h
    exact fun hc => h.resolve_left (fun n => n hc)
  | nested hd tag h' c =>
    simp only [nopOKb, Bool.and_eq_true, decide_eq_true_eq] at h
    exact ⟨h.1, fun pth pb hp => choiceOKb_sound (by simpa [hp] using h.2)⟩
  | nesteds hd tag hs cs =>
    simp only [nopOKb, Bool.and_eq_true, decide_eq_true_eq] at h
    exact ⟨h.1, fun id o node i fd h1 h2 h3 h4 h5 => nestedsOKb_sound _ _ _ _ _ _ (by simpa [h1, h2, h3, h4, h5] using h.2)⟩

def nhistOKb (s : LState) (sp : NSpec) : List LOp → Bool
  | [] => true
  | op :: ops => nopOKb s sp op && nhistOKb (s.step op).1 (sp.step op).1 ops

theorem nhistOKb_sound : ∀ (ops : List LOp) (s : LState) (sp : NSpec), nhistOKb s sp ops = true → NHistOK s sp ops
  | [], _, _, _ => trivial
  | op :: ops, s, sp, h => by
    simp only [nhistOKb, Bool.and_eq_true] at h
    exact ⟨nopOKb_sound h.1, nhistOKb_sound ops _ _ h.2⟩

/-- tag 1 is a scalar, tag 2 a nested message of which tag 1 is requested -/
def nroot : LDec := .mk [1, 2] [(2, .mk [1] [])]
/-- `{1: 5, 2: {1: 7}}` -/
def ninA : Bytes := [0x08, 0x05, 0x12, 0x02, 0x08, 0x07]
/-- `{2: {1: 9}}` — no field 1 -/
def ninB : Bytes := [0x12, 0x02, 0x08, 0x09]

/-- Decode A into the new object 10; `NestedResult(2)` into the new object 11 (handle 2); read it; read the same
    value through the two-element path `[2, 1]` (which allocates the client-invisible nested object 1000000);
    `NestedResults(2)` into the new object 12 (handle 3); `Close` the nested handle (no effect), `Close` the
    root (releasing 11, 1000000, 12 into the nested decoder's pool and 10 into the root pool), `Close` it again.
    Then Decode B into the RECYCLED root object 10, `NestedResult(2)` into the RECYCLED nested object 11
    (handle 5), read both, take another nested result out of the RECYCLED invisible object 1000000, Range, Close. -/
def nhistEx : List LOp :=
  [.decode 1 ninA (.new 10), .nested 1 2 2 (.new 11), .acc 2 [1] .uint64, .acc 1 [2, 1] .uint64,
   .nesteds 1 2 [3] [.new 12], .acc 3 [1] .uint64, .close 2, .acc 2 [1] .uint64, .close 1, .close 1,
   .decode 4 ninB (.reuse 10), .nested 4 2 5 (.reuse 11), .acc 5 [1] .uint64, .acc 4 [1] .uint64,
   .nested 4 2 6 (.reuse 1000000), .acc 6 [1] .uint64, .range 5, .acc 4 [2, 1] .uint64, .close 4]

theorem nhistEx_ok : NHistOK (LState.init nroot true) (NSpec.init nroot) nhistEx :=
  nhistOKb_sound _ _ _ (by decide +kernel)

/-- the pooled machine's outputs on it: the second root result (object 10 again) has no field 1 although the
    object held `5` there before, and the recycled nested objects answer `9`, not `7` -/
theorem nhistEx_outputs : outputs (LState.init nroot true) nhistEx =
    [.ok, .ok, .ans (.ok (.nat 7)), .ans (.ok (.nat 7)), .many [true], .ans (.ok (.nat 7)), .ok, .ans (.ok (.nat 7)),
     .ok, .ok, .ok, .ok, .ans (.ok (.nat 9)), .ans .notFound, .ok, .ans (.ok (.nat 9)), .tags [(1, true)],
     .ans (.ok (.nat 9)), .ok] := by
  decide +kernel

def accCOKb : Nat → LState → Option Nat → List Nat → List Choice → Bool
  | fuel + 1, s, some id, tag :: t2 :: rest, c :: cs =>
    match s.obj? id with
    | none => true
    | some o =>
      match decAt s.root o.path with
      | none => true
      | some node =>
        (match nestedSelect node o.fds tag with
          | .payload _ pb => pb.isEmpty || choiceOKb s (o.path ++ [tag]) c
          | _ => true) &&
        (match nestedResult s id tag c with
          | (s1, _, some nxt) => accCOKb fuel s1 nxt (t2 :: rest) cs
          | _ => true)
  | _, _, _, _, _ => true

theorem accCOKb_sound : ∀ (fuel : Nat) (s : LState) (r : Option Nat) (path : List Nat) (cs : List Choice),
    accCOKb fuel s r path cs = true → AccCOK fuel s r path cs
  | fuel + 1, s, some id, tag :: t2 :: rest, c :: cs, h => by
    rw [AccCOK]
    intro o node ho hn
    rw [accCOKb] at h
    simp only [ho, hn, Bool.and_eq_true] at h
    refine ⟨?_, ?_⟩
    · exact fun sub pb hsel hne => choiceOKb_or (by simpa [hsel] using h.1) hne
    · have h2 := h.2
      rcases hnr : nestedResult s id tag c with ⟨s1, out, r⟩
      rw [hnr] at h2
      cases r with
      | none => trivial
      | some nxt => exact accCOKb_sound fuel s1 nxt (t2 :: rest) cs h2
  | 0, _, _, _, _, _ => by simp [AccCOK]
  | _ + 1, _, none, _, _, _ => by simp [AccCOK]
  | _ + 1, _, some _, [], _, _ => by simp [AccCOK]
  | _ + 1, _, some _, [_], _, _ => by simp [AccCOK]
  | _ + 1, _, some _, _ :: _ :: _, [], _ => by simp [AccCOK]

def xopOKb (s : LState) (sp : NSpec) : XOp → Bool
  | .base op => nopOKb s sp op
  | .accC h path _ cs =>
    decide (sp.handle? h ≠ some .closed) &&
      match s.handle? h with
      | some r => accCOKb (path.length + 1) s r (path.map Int.natAbs) cs
      | none => true

theorem xopOKb_sound {s : LState} {sp : NSpec} {op : XOp} (h : xopOKb s sp op = true) : XOpOK s sp op := by
  cases op with
  | base op => exact nopOKb_sound h
  | accC hd path a cs =>
    simp only [xopOKb, Bool.and_eq_true, decide_eq_true_eq] at h
    refine ⟨h.1, ?_⟩
    intro r hr
    have h2 := h.2
    rw [hr] at h2
    exact accCOKb_sound _ _ _ _ _ h2

def xhistOKb (s : LState) (sp : NSpec) : List XOp → Bool
  | [] => true
  | op :: ops => xopOKb s sp op && xhistOKb (xstep s op).1 (sp.xstep op).1 ops

theorem xhistOKb_sound : ∀ (ops : List XOp) (s : LState) (sp : NSpec), xhistOKb s sp ops = true → XHistOK s sp ops
  | [], _, _, _ => trivial
  | op :: ops, s, sp, h => by
    simp only [xhistOKb, Bool.and_eq_true] at h
    exact ⟨xopOKb_sound h.1, xhistOKb_sound ops _ _ h.2⟩

/-- the two-element path `[2, 1]` first allocates the invisible nested object 1000000; after `Close` and a
    re-decode into the recycled root object 10, the same path is served by the RECYCLED object 1000000 -/
def xhistEx : List XOp :=
  [.base (.decode 1 ninA (.new 10)), .base (.acc 1 [2, 1] .uint64), .base (.close 1),
   .base (.decode 2 ninB (.reuse 10)), .accC 2 [2, 1] .uint64 [.reuse 1000000], .base (.acc 2 [1] .uint64),
   .base (.close 2)]

theorem xhistEx_ok : XHistOK (LState.init nroot true) (NSpec.init nroot) xhistEx :=
  xhistOKb_sound _ _ _ (by decide +kernel)

theorem xhistEx_outputs : xoutputs (LState.init nroot true) xhistEx =
    [.ok, .ans (.ok (.nat 7)), .ok, .ok, .ans (.ok (.nat 9)), .ans .notFound, .ok] := by
  decide +kernel

end Csproto.C14N
