import Csproto.Model.Pool
/-
  C14 — the capacity options (`WithMaxBufferSize`, `WithBufferFilterFunc`) never change recorded data.

  `Model/Pool.lean` has no options: its `closeObj` leaves `o.fds.map fun fd => { fd with data := [] }`
  (`erased o.fds` below).  Here `(*DecodeResult).close` / `trunc` / `cap` and `(*FieldData).trunc` / `cap` are modelled WITH the
  capacities they work on (capacity of `fd.data`, `fd.maxCap` bounding the typed scratch slices, capacity of
  `closers`) and with both options — the max buffer size (`-1` = not given) and an arbitrary filter function
  whose answer may be negative ("leave the buffers alone"), zero, small or huge. `closeFds_erases_options`:
  for EVERY combination (none, max only, filter only, both) and every filter function the recorded data a
  closed object takes into the pool is `erased` of what it held; `closeFds_all_empty`:
  nothing recorded survives `close`. `closeFds_lazy_reset_witness` is the negation for a `close` that leaves
  the clearing of the data to `trunc` (a filter without a max buffer size answering with a negative capacity).
  Tie to the code: `Bridge.lazyClose_resets_first` (regenerated fact `lazyCloseSteps`: the first statement of
  `(*DecodeResult).close` is the unconditional loop that empties every `data`), and the option histories of the
  harness (C13 reuse / live, C14 histories, C15: every combination of the options).
-/
namespace Csproto.C14Opts
open Csproto

/-- a `*FieldData` with the capacities `close` looks at -/
structure FDC where
  fd : FD
  dataCap : Nat     -- cap(fd.data)
  maxCap : Nat      -- fd.maxCap
deriving Repr

structure Opts where
  maxBuffer : Int                 -- `dec.maxBuffer`, -1 unless `WithMaxBufferSize(n)` was given
  filter : Option (Nat → Int)     -- `WithBufferFilterFunc(fn)`

/-- `(*FieldData).trunc(n)` (n ≥ 0): a larger `data` slice is replaced by an empty one of capacity n; the
    scratch slices are cut down when `n ≤ maxCap` -/
def FDC.trunc (n : Nat) (x : FDC) : FDC :=
  let x1 : FDC := if x.dataCap > n then { x with fd := { x.fd with data := [] }, dataCap := n } else x
  if n > x1.maxCap then x1 else { x1 with maxCap := n }

/-- `(*DecodeResult).trunc(n)`: nothing for a negative n -/
def truncAll (n : Int) (closersCap : Nat) (xs : List FDC) : Nat × List FDC :=
  if n < 0 then (closersCap, xs)
  else (if closersCap > n.toNat then n.toNat else closersCap, xs.map (FDC.trunc n.toNat))

/-- `(*DecodeResult).cap()` -/
def capAll (closersCap : Nat) (xs : List FDC) : Nat :=
  xs.foldl (fun c x => max c (max x.dataCap x.maxCap)) closersCap

def FDC.reset (x : FDC) : FDC := { x with fd := { x.fd with data := [] } }

/-- `(*DecodeResult).close`, the part that touches the object's own field data (`closers` has been emptied by then:
    only its capacity is left) -/
def closeFds (o : Opts) (pooled : Bool) (closersCap : Nat) (xs : List FDC) : List FDC :=
  let xs0 := xs.map FDC.reset
  if !pooled then xs0 else
  let (cc1, xs1) := if o.maxBuffer ≥ 0 then truncAll o.maxBuffer closersCap xs0 else (closersCap, xs0)
  match o.filter with
  | none => xs1
  | some f =>
    let n := f (capAll cc1 xs1)
    if n ≥ 0 then (truncAll n cc1 xs1).2 else xs1

def erased (fds : List FD) : List FD := fds.map fun fd => { fd with data := [] }

theorem trunc_fd (n : Nat) (x : FDC) (h : x.fd.data = []) : (x.trunc n).fd = x.fd := by
  obtain ⟨⟨wt, data⟩, dc, mc⟩ := x
  simp only at h
  subst h
  unfold FDC.trunc
  by_cases h1 : dc > n <;> by_cases h2 : n > mc <;> simp [h1, h2]

theorem truncAll_fds (n : Int) (cc : Nat) (xs : List FDC) (h : ∀ x ∈ xs, x.fd.data = []) :
    (truncAll n cc xs).2.map (·.fd) = xs.map (·.fd) := by
  unfold truncAll
  by_cases hn : n < 0
  · simp [hn]
  · simp only [hn, if_false, List.map_map]
    apply List.map_congr_left
    intro x hx
    exact trunc_fd _ x (h x hx)

theorem truncAll_empty (n : Int) (cc : Nat) (xs : List FDC) (h : ∀ x ∈ xs, x.fd.data = []) :
    ∀ x ∈ (truncAll n cc xs).2, x.fd.data = [] := by
  intro x hx
  have := truncAll_fds n cc xs h
  have hm : x.fd ∈ (truncAll n cc xs).2.map (·.fd) := List.mem_map_of_mem hx
  rw [this] at hm
  obtain ⟨y, hy, hyx⟩ := List.mem_map.1 hm
  rw [← hyx]; exact h y hy

theorem reset_empty (xs : List FDC) : ∀ x ∈ xs.map FDC.reset, x.fd.data = [] := by
  intro x hx
  obtain ⟨y, _, rfl⟩ := List.mem_map.1 hx
  rfl

theorem reset_fds (xs : List FDC) : (xs.map FDC.reset).map (·.fd) = erased (xs.map (·.fd)) := by
  simp [erased, FDC.reset, List.map_map, Function.comp_def]

/-- whatever the options are, a closed object's recorded data is `erased` of what it held: every `data` emptied,
    the wire-type marks as they were -/
theorem closeFds_erases_options (o : Opts) (pooled : Bool) (cc : Nat) (xs : List FDC) :
    (closeFds o pooled cc xs).map (·.fd) = erased (xs.map (·.fd)) := by
  unfold closeFds
  have h0 := reset_empty xs
  by_cases hp : pooled <;> simp only [hp, Bool.not_true, Bool.not_false, if_true, if_false, Bool.false_eq_true]
  · by_cases hm : o.maxBuffer ≥ 0 <;> simp only [hm, if_true, if_false]
    · have h1 := truncAll_empty o.maxBuffer cc _ h0
      have e1 := truncAll_fds o.maxBuffer cc _ h0
      cases hf : o.filter with
      | none => simp only; rw [e1, reset_fds]
      | some f =>
        simp only
        split
        · rw [truncAll_fds _ _ _ h1, e1, reset_fds]
        · rw [e1, reset_fds]
    · cases hf : o.filter with
      | none => simp only; rw [reset_fds]
      | some f =>
        simp only
        split
        · rw [truncAll_fds _ _ _ h0, reset_fds]
        · rw [reset_fds]
  · exact reset_fds xs

/-- nothing recorded survives `close`, under every option combination -/
theorem closeFds_all_empty (o : Opts) (pooled : Bool) (cc : Nat) (xs : List FDC) :
    ∀ x ∈ closeFds o pooled cc xs, x.fd.data = [] := by
  intro x hx
  have hm : x.fd ∈ (closeFds o pooled cc xs).map (·.fd) := List.mem_map_of_mem hx
  rw [closeFds_erases_options] at hm
  obtain ⟨y, _, hyx⟩ := List.mem_map.1 hm
  rw [← hyx]

/-- hence any two option settings agree (the harness draws four combinations) -/
theorem closeFds_option_independent (o o' : Opts) (cc cc' : Nat) (xs : List FDC) :
    (closeFds o true cc xs).map (·.fd) = (closeFds o' true cc' xs).map (·.fd) := by
  rw [closeFds_erases_options, closeFds_erases_options]

/-- a `close` that relies on `trunc` to empty the data when any option is set (and clears it itself only when
    none is) -/
def closeFdsLazyReset (o : Opts) (closersCap : Nat) (xs : List FDC) : List FDC :=
  if o.maxBuffer < 0 ∧ o.filter.isNone then xs.map FDC.reset else
  let (cc1, xs1) := if o.maxBuffer ≥ 0 then truncAll o.maxBuffer closersCap (xs.map FDC.reset) else (closersCap, xs)
  match o.filter with
  | none => xs1
  | some f =>
    let n := f (capAll cc1 xs1)
    if n ≥ 0 then (truncAll n cc1 (xs1.map FDC.reset)).2 else xs1

/-- `closeFdsLazyReset` is not option independent: a filter without a max buffer size that answers "leave it alone"
    keeps the data -/
theorem closeFds_lazy_reset_witness :
    (closeFdsLazyReset { maxBuffer := -1, filter := some fun _ => -1 } 0
      [{ fd := { wt := 0, data := [[5]] }, dataCap := 1, maxCap := 0 }]).map (·.fd)
      ≠ erased [{ wt := 0, data := [[5]] }] := by
  decide

end Csproto.C14Opts
