import Csproto.Proofs.Prov
import Csproto.Proofs.ProvLazy
import Csproto.Props.C10
/-
  C10 — Safe-mode decoding never aliases the caller's buffer, *derived from the Unmarshal model*.

  `Props/C10.lean` argues over a table of storage sites.  Here the claim is a theorem about an executable
  provenance-tracking model of the generated `Unmarshal` (`Model/Prov.lean`): the control flow, decoder
  states and values are those of the value model `Gen.unmarshal` (`Model/GenDec.lean`); every stored
  string / bytes / unknown-field value is a `Ref` — a window onto the caller's buffer (`alias`) or a
  private copy (`owned`) — produced where decoder.go slices `d.p` and copied where the template copies.

  * `erasure`                    the provenance model is a conservative extension of the value model;
  * `safe_mode_owns_everything`  safe mode + the template's copy discipline ⇒ no `alias` at any depth;
  * `clobber_invariant`          hence the message reads the same whatever the caller does to the buffer;
  * `fast_mode_aliases`, `nocopy_bytes_arm_aliases`, `nested_alias_is_relative_to_outer_buffer`
                                 the distinction is real: the opt-in mode, and the bytes arm without its copy,
                                 do produce windows, and overwriting the buffer changes what is read;
  * `lazy_*`                     lazyproto: safe-mode results point into a private clone.

  The copy discipline (`templatePolicy`) is not an assumption: `policy_from_facts` equates it with what the
  facts regenerated from the template text say (`C10.siteCopies`).
-/
namespace Csproto.C10Prov
open Csproto Csproto.Gen Csproto.Prov

theorem template_policy_safe : ∀ site, templatePolicy site false = true := by
  intro site; cases site <;> rfl

def toC10Site : Site → C10.Site
  | .bytesField => .bytesField
  | .repeatedBytes => .repeatedBytes
  | .oneofBytes => .oneofBytes
  | .mapValueBytes => .mapValueBytes
  | .unknownFields => .unknownFields

/-- `templatePolicy` is what the facts regenerated from the template text say, site by site and mode by mode -/
theorem policy_from_facts : ∀ site fast, templatePolicy site fast = C10.siteCopies fast (toC10Site site) := by
  intro site fast
  cases fast
  · rw [C10.safe_mode_owns_everything]; exact template_policy_safe site
  · cases site
    case unknownFields => exact (C10.safe_mode_owns_everything .unknownFields).symm
    all_goals rfl

/-- (a) ERASURE: reading every reference of the provenance result against the input gives exactly the value
    model's `Unmarshal` — for every schema, input, mode and copy discipline; errors and panics coincide -/
theorem erasure (S : Schema) (pol : Policy) (fast : Bool) (md : MD) (p : Bytes) :
    (unmarshalP S pol fast md p).map (PMsg.erase p) = unmarshal S fast md p := by
  have h := ((unmarshalP_agrees S pol fast p (3 * p.length + 8)).1 md 0 p.length).1
  rwa [List.drop_zero, List.take_length] at h

/-- in particular the provenance model succeeds exactly when the value model does -/
theorem succeeds_iff (S : Schema) (pol : Policy) (fast : Bool) (md : MD) (p : Bytes) (v : List F × Bytes) :
    unmarshal S fast md p = .ok v ↔ ∃ m, unmarshalP S pol fast md p = .ok m ∧ m.erase p = v := by
  rw [← erasure S pol fast md p]
  exact Res.map_eq_ok

/-- (b) SAFE MODE OWNS EVERYTHING: for every schema and every input, the message a safe-mode `Unmarshal`
    (template copy discipline) produces contains no window onto the input at any depth — fields, repeated
    elements, map keys and values, oneof members, nested messages, unknown fields -/
theorem safe_mode_owns_everything (S : Schema) (md : MD) (p : Bytes) (m : PMsg)
    (h : unmarshalP S templatePolicy false md p = .ok m) : m.owned = true :=
  unmarshalP_owned S templatePolicy template_policy_safe md p h

/-- (c) CLOBBER INVARIANCE: whatever the caller's buffer holds afterwards (`buf'` arbitrary: overwritten,
    truncated, recycled), the message reads as it did against the original input -/
theorem clobber_invariant (S : Schema) (md : MD) (p buf' : Bytes) (m : PMsg)
    (h : unmarshalP S templatePolicy false md p = .ok m) : m.erase buf' = m.erase p :=
  erase_owned_msg p buf' m (safe_mode_owns_everything S md p m h)

/-- … and that is the value the value model decoded -/
theorem clobbered_reads_decoded (S : Schema) (md : MD) (p buf' : Bytes) (m : PMsg)
    (h : unmarshalP S templatePolicy false md p = .ok m) : unmarshal S false md p = .ok (m.erase buf') := by
  rw [clobber_invariant S md p buf' m h, ← erasure S templatePolicy false md p, h]; rfl

/-- the full statement of C10 for the generated code -/
def SafeModeNeverAliases : Prop :=
  ∀ (S : Schema) (md : MD) (p : Bytes) (v : List F × Bytes), unmarshal S false md p = .ok v →
    ∃ m, unmarshalP S templatePolicy false md p = .ok m ∧ m.owned = true ∧ ∀ buf', m.erase buf' = v

theorem safe_mode_never_aliases : SafeModeNeverAliases := by
  intro S md p v hv
  obtain ⟨m, hm, he⟩ := (succeeds_iff S templatePolicy false md p v).mp hv
  exact ⟨m, hm, safe_mode_owns_everything S md p m hm, fun buf' => by rw [clobber_invariant S md p buf' m hm, he]⟩

/-- message type 0: `string a = 1; bytes b = 2; Inner c = 3;`   message type 1 (`Inner`): `string s = 1;` -/
def exSchema : Schema :=
  [[{ num := 1, ty := .sc .string, card := .implicit }, { num := 2, ty := .sc .bytes, card := .implicit },
    { num := 3, ty := .msg 1, card := .explicit }],
   [{ num := 1, ty := .sc .string, card := .implicit }]]

/-- `a: "hi"` -/
def exString : Bytes := [0x0a, 0x02, 0x68, 0x69]
/-- `b: "hi"` -/
def exBytes : Bytes := [0x12, 0x02, 0x68, 0x69]
/-- `c: { s: "hi" }` -/
def exNested : Bytes := [0x1a, 0x04, 0x0a, 0x02, 0x68, 0x69]

/-- the opt-in: in fast mode the string field is the window `[2, 4)` of the caller's buffer, and overwriting the
    buffer changes what the message reads; in safe mode the same input gives a private copy -/
theorem fast_mode_aliases :
    unmarshalP exSchema templatePolicy true (exSchema.md 0) exString =
      .ok ([.one (.bs (.alias 2 2)), .one (.bs (.owned [])), .unset], []) ∧
    (Ref.alias 2 2).read exString = [0x68, 0x69] ∧
    (Ref.alias 2 2).read [0xff, 0xff, 0xff, 0xff] = [0xff, 0xff] ∧
    unmarshalP exSchema templatePolicy false (exSchema.md 0) exString =
      .ok ([.one (.bs (.owned [0x68, 0x69])), .one (.bs (.owned [])), .unset], []) := by
  refine ⟨?_, ?_, ?_, ?_⟩ <;> with_unfolding_all rfl

/-- the template's bytes arm copies only `if dec.Mode() == csproto.DecoderModeSafe`: in fast mode a bytes field
    is a window too -/
theorem fast_mode_bytes_alias :
    unmarshalP exSchema templatePolicy true (exSchema.md 0) exBytes =
      .ok ([.one (.bs (.owned [])), .one (.bs (.alias 2 2)), .unset], []) := by
  with_unfolding_all rfl

/-- the negation: the bytes arm *without* its copy (the code before the fix) stores a window even in safe mode,
    and a clobbered buffer is observable -/
theorem nocopy_bytes_arm_aliases :
    unmarshalP exSchema noCopyPolicy false (exSchema.md 0) exBytes =
      .ok ([.one (.bs (.owned [])), .one (.bs (.alias 2 2)), .unset], []) ∧
    PMsg.erase exBytes ([.one (.bs (.owned [])), .one (.bs (.alias 2 2)), .unset], []) =
      ([.one (.bs []), .one (.bs [0x68, 0x69]), .unset], []) ∧
    PMsg.erase [0, 0, 0, 0] ([.one (.bs (.owned [])), .one (.bs (.alias 2 2)), .unset], []) =
      ([.one (.bs []), .one (.bs [0, 0]), .unset], []) := by
  refine ⟨?_, ?_, ?_⟩ <;> with_unfolding_all rfl

/-- a nested message is decoded on a sub-slice: in fast mode its string is the window `[4, 6)` *of the outer
    buffer* (the inner decoder saw it at `[2, 4)` of its own) -/
theorem nested_alias_is_relative_to_outer_buffer :
    unmarshalP exSchema templatePolicy true (exSchema.md 0) exNested =
      .ok ([.one (.bs (.owned [])), .one (.bs (.owned [])), .one (.msg [.one (.bs (.alias 4 2))] [])], []) ∧
    unmarshalP exSchema templatePolicy false (exSchema.md 0) exNested =
      .ok ([.one (.bs (.owned [])), .one (.bs (.owned [])), .one (.msg [.one (.bs (.owned [0x68, 0x69]))] [])], []) := by
  refine ⟨?_, ?_⟩ <;> with_unfolding_all rfl

/-- unknown fields are `append`ed to the message's own slice in both modes -/
theorem unknown_fields_owned_in_fast_mode :
    unmarshalP exSchema templatePolicy true (exSchema.md 1) [0x10, 0x07] = .ok ([.one (.bs (.owned []))], [.owned [0x10, 0x07]]) := by
  with_unfolding_all rfl

/-- `map<string,bytes> m = 1; oneof o { bytes ob = 2; string os = 3; } repeated bytes rb = 4;` and the map's entry type -/
def exSchema2 : Schema :=
  [[{ num := 1, ty := .msg 1, card := .map }, { num := 2, ty := .sc .bytes, card := .oneof 0 },
    { num := 3, ty := .sc .string, card := .oneof 0 }, { num := 4, ty := .sc .bytes, card := .list }],
   [{ num := 1, ty := .sc .string, card := .always }, { num := 2, ty := .sc .bytes, card := .always }]]

/-- `m: {"k1": "v1"}  ob: "A"  rb: "B"  rb: "C"` -/
def exSites : Bytes :=
  [0x0a, 0x08, 0x0a, 0x02, 0x6b, 0x31, 0x12, 0x02, 0x76, 0x31, 0x12, 0x01, 0x41, 0x22, 0x01, 0x42, 0x22, 0x01, 0x43]

/-- every kind of storage site on one input: map key and value, oneof member, repeated bytes — windows in fast
    mode (the entry's offsets are again those of the outer buffer), private copies in safe mode, and with the
    bytes arms' copy removed only the `DecodeString` key stays owned -/
theorem every_site_example :
    unmarshalP exSchema2 templatePolicy true (exSchema2.md 0) exSites =
      .ok ([.many [.msg [.one (.bs (.alias 4 2)), .one (.bs (.alias 8 2))] []], .one (.bs (.alias 12 1)), .unset,
            .many [.bs (.alias 15 1), .bs (.alias 18 1)]], []) ∧
    unmarshalP exSchema2 templatePolicy false (exSchema2.md 0) exSites =
      .ok ([.many [.msg [.one (.bs (.owned [0x6b, 0x31])), .one (.bs (.owned [0x76, 0x31]))] []],
            .one (.bs (.owned [0x41])), .unset, .many [.bs (.owned [0x42]), .bs (.owned [0x43])]], []) ∧
    unmarshalP exSchema2 noCopyPolicy false (exSchema2.md 0) exSites =
      .ok ([.many [.msg [.one (.bs (.owned [0x6b, 0x31])), .one (.bs (.alias 8 2))] []], .one (.bs (.alias 12 1)), .unset,
            .many [.bs (.alias 15 1), .bs (.alias 18 1)]], []) := by
  refine ⟨?_, ?_, ?_⟩ <;> with_unfolding_all rfl

theorem cleanW_read (mem : Bytes) (n : Nat) : (cleanW n).map (WFD.read mem) = cleanFds n := by
  simp [cleanW, cleanFds, WFD.read]

theorem lazy_view_at_decode (fast : Bool) (input : Bytes) :
    (if fast then Backing.caller else Backing.priv input).view input = input := by
  cases fast <;> rfl

/-- erasure for lazyproto: reading the recorded windows against the buffer as it was at decode time gives
    exactly the field data of the value model — in either mode, errors and panics included -/
theorem lazy_erasure (fast : Bool) (flat : List Nat) (input : Bytes) :
    (lazyDecodeP fast flat input).map (fun r => r.fdsAt input) = decodeInto flat (cleanFds flat.length) input := by
  unfold lazyDecodeP decodeInto
  rw [Res.map_map, ← cleanW_read input]
  simp only [LRes.fdsAt, lazy_view_at_decode]
  exact erase_decodeIntoLoop flat input _ 0 _ _ ⟨input.length, by simp⟩

/-- safe mode (`(*Decoder).Decode` with `DecoderModeSafe`, and the package-level `Decode`): the windows refer to
    the private clone -/
theorem lazy_safe_backing (flat : List Nat) (input : Bytes) (r : LRes) (h : lazyDecodeP false flat input = .ok r) :
    r.backing = .priv input := by
  obtain ⟨fds, -, rfl⟩ := Res.map_eq_ok.mp h
  rfl

/-- clobber invariance for lazy results: the field data a safe-mode result presents to the accessors does not
    depend on what the caller's buffer holds (`now` arbitrary), and is what the value model decoded -/
theorem lazy_clobber_invariant (flat : List Nat) (input now : Bytes) (r : LRes)
    (h : lazyDecodeP false flat input = .ok r) :
    r.fdsAt now = r.fdsAt input ∧ decodeInto flat (cleanFds flat.length) input = .ok (r.fdsAt now) := by
  have hb := lazy_safe_backing flat input r h
  have h1 : r.fdsAt now = r.fdsAt input := by simp [LRes.fdsAt, hb, Backing.view]
  refine ⟨h1, ?_⟩
  rw [h1, ← lazy_erasure false flat input, h]; rfl

/-- every typed accessor, and every `FieldData(path…)` lookup through nested messages, answers the same after any
    clobber as at decode time -/
theorem lazy_accessors_clobber_invariant (flat : List Nat) (input now : Bytes) (r : LRes)
    (h : lazyDecodeP false flat input = .ok r) (dec : LDec) :
    (∀ tag a, r.access now dec tag a = r.access input dec tag a) ∧
    (∀ fuel path a, r.lookup now fuel dec path a = r.lookup input fuel dec path a) := by
  have h1 := (lazy_clobber_invariant flat input now r h).1
  exact ⟨fun tag a => by simp [LRes.access, h1], fun fuel path a => by simp [LRes.lookup, h1]⟩

/-- a nested result shares its parent's memory (no clone in `NestedResult`), and its windows read what the value
    model decodes from the payload — so nested results of a safe-mode result are clobber-invariant too -/
theorem lazy_nested (parent : LRes) (now : Bytes) (subFlat : List Nat) (w : Nat × Nat) :
    (∀ r, lazyNestedP parent now subFlat w = .ok r → r.backing = parent.backing) ∧
    (lazyNestedP parent now subFlat w).map (fun r => r.fdsAt now) =
      decodeInto subFlat (cleanFds subFlat.length) (((parent.backing.view now).drop w.1).take w.2) := by
  constructor
  · intro r h
    obtain ⟨fds, -, rfl⟩ := Res.map_eq_ok.mp h
    rfl
  · unfold lazyNestedP decodeInto
    rw [Res.map_map, ← cleanW_read (parent.backing.view now)]
    exact erase_decodeIntoLoop subFlat (parent.backing.view now) _ w.1 _ _ ⟨w.2, rfl⟩

/-- the value `BytesValue` / `StringValue` hands out reads, at the time of the call, the last occurrence the value
    model's accessor picks -/
theorem lazy_value_erasure (r : LRes) (unsafeFlag : Bool) (now : Bytes) (i : Nat) :
    (r.bytesValueP unsafeFlag now i).map (LRef.read now) = ((r.fdsAt now)[i]?).bind (fun fd => fd.data.getLast?) := by
  unfold LRes.bytesValueP LRes.fdsAt
  rw [List.getElem?_map]
  cases r.fds[i]? with
  | none => rfl
  | some fd =>
    simp only [Option.map_some, Option.bind_some, WFD.read, List.getLast?_map, Option.map_map]
    cases fd.data.getLast? with
    | none => rfl
    | some w => cases unsafeFlag <;> rfl

/-- values obtained from a lazy result stay what they were: a value handed out by an accessor of a safe-mode
    result (`unsafe = false`: it is a copy) or of any result whose memory is a private clone reads the same after
    any later change of the caller's buffer -/
theorem lazy_values_clobber_invariant (r : LRes) (unsafeFlag : Bool) (now later : Bytes) (i : Nat) (v : LRef)
    (hsafe : unsafeFlag = false ∨ ∃ c, r.backing = .priv c) (h : r.bytesValueP unsafeFlag now i = some v) :
    v.read later = v.read now := by
  unfold LRes.bytesValueP at h
  split at h
  · cases h
  · obtain ⟨w, -, rfl⟩ := Option.map_eq_some_iff.1 h
    cases unsafeFlag
    · rfl
    · obtain hu | ⟨c, hc⟩ := hsafe
      · cases hu
      · rw [if_pos rfl, hc]; rfl

/-- fast mode (`WithMode(DecoderModeFast)`): the windows refer to the caller's buffer, and overwriting it changes
    what `BytesValue` returns -/
theorem lazy_fast_mode_aliases :
    lazyDecodeP true [1] exString = .ok { backing := .caller, fds := [{ wt := 2, data := [(2, 2)] }] } ∧
    (LRes.mk .caller [{ wt := 2, data := [(2, 2)] }]).access exString (.mk [1] []) 1 .bytes = .ok (.bytes [0x68, 0x69]) ∧
    (LRes.mk .caller [{ wt := 2, data := [(2, 2)] }]).access [0, 0, 0, 0] (.mk [1] []) 1 .bytes = .ok (.bytes [0, 0]) ∧
    lazyDecodeP false [1] exString = .ok { backing := .priv exString, fds := [{ wt := 2, data := [(2, 2)] }] } ∧
    (LRes.mk (.priv exString) [{ wt := 2, data := [(2, 2)] }]).access [0, 0, 0, 0] (.mk [1] []) 1 .bytes =
      .ok (.bytes [0x68, 0x69]) := by
  refine ⟨?_, ?_, ?_, ?_, ?_⟩ <;> with_unfolding_all rfl

end Csproto.C10Prov
