import Csproto.Props.C03Source
import Csproto.Bridge.PackedFuncs
import Csproto.Bridge.SeekFuncs
/-
  C03 for the SOURCE: `DecodeBool`, `Seek` and nine packed readers of the translated decoder.go RETURN for every
  buffer, in-range cursor and declared length — no statement panics, the loops terminate (fuel `len + 2`) — and leave the
  buffer field alone (`*_total`).  For the packed readers the cursor is deliberately not claimed to be restored on error:
  the Go code leaves it where the malformed element starts, and so does the model (`DecodePacked*_refines`).
-/
set_option linter.unusedSectionVars false
namespace Csproto.C03.Source
open Csproto Csproto.Generated.WireFuncs Csproto.Bridge Csproto.Bridge.WireFuncs Csproto.Bridge.DecoderFuncs Csproto.Bridge.SkipFuncs
open Csproto.Bridge.PackedFuncs Csproto.Bridge.SeekFuncs

def Total {σ ρ : Type} (out : Go.Out σ (ρ × Go.Err)) (getp : σ → Bytes) (p : Bytes) : Prop :=
  ∃ r e s, out = .ret (r, e) s ∧ getp s = p

/-- what a refinement theorem says first: the call returns and the buffer field is untouched -/
theorem Total.of_refines {σ ρ : Type} {out : Go.Out σ (ρ × Go.Err)} {getp : σ → Bytes} {p : Bytes} {Q : ρ → Go.Err → σ → Prop} :
    (∃ r e s, out = .ret (r, e) s ∧ getp s = p ∧ Q r e s) → Total out getp p :=
  fun ⟨r, e, s, hr, hp, _⟩ => ⟨r, e, s, hr, hp⟩

variable (fuel : Nat) (hf : 11 ≤ fuel) (p : Bytes) (off mode ks ke : BitVec 64)
include hf

theorem DecodeBool_total (hp : p.length < 2 ^ 63) (hoff : off.toNat ≤ p.length) :
    Total (Decoder_DecodeBool fuel p off mode ks ke) (·.d_p) p :=
  .of_refines (DecodeBool_refines fuel hf p off mode ks ke false hp hoff)
theorem Seek_total (offset whence : BitVec 64) (hp : p.length < 2 ^ 63) (hoff : off.toNat ≤ p.length) :
    Total (Decoder_Seek fuel p off mode ks ke offset whence) (·.d_p) p :=
  .of_refines (Seek_refines fuel p off mode ks ke offset whence false hp hoff)
theorem DecodePackedUint64_total (hp : p.length < 2 ^ 62) (hfl : p.length + 2 ≤ fuel) (hoff : off.toNat ≤ p.length) :
    Total (Decoder_DecodePackedUint64 fuel p off mode ks ke) (·.d_p) p :=
  .of_refines (DecodePackedUint64_refines fuel hf p off mode ks ke false hp hfl hoff)
theorem DecodePackedInt64_total (hp : p.length < 2 ^ 62) (hfl : p.length + 2 ≤ fuel) (hoff : off.toNat ≤ p.length) :
    Total (Decoder_DecodePackedInt64 fuel p off mode ks ke) (·.d_p) p :=
  .of_refines (DecodePackedInt64_refines fuel hf p off mode ks ke false hp hfl hoff)
theorem DecodePackedUint32_total (hp : p.length < 2 ^ 62) (hfl : p.length + 2 ≤ fuel) (hoff : off.toNat ≤ p.length) :
    Total (Decoder_DecodePackedUint32 fuel p off mode ks ke) (·.d_p) p :=
  .of_refines (DecodePackedUint32_refines fuel hf p off mode ks ke false hp hfl hoff)
theorem DecodePackedInt32_total (hp : p.length < 2 ^ 62) (hfl : p.length + 2 ≤ fuel) (hoff : off.toNat ≤ p.length) :
    Total (Decoder_DecodePackedInt32 fuel p off mode ks ke) (·.d_p) p :=
  .of_refines (DecodePackedInt32_refines fuel hf p off mode ks ke false hp hfl hoff)
theorem DecodePackedSint64_total (hp : p.length < 2 ^ 62) (hfl : p.length + 2 ≤ fuel) (hoff : off.toNat ≤ p.length) :
    Total (Decoder_DecodePackedSint64 fuel p off mode ks ke) (·.d_p) p :=
  .of_refines (DecodePackedSint64_refines fuel hf p off mode ks ke false hp hfl hoff)
theorem DecodePackedSint32_total (hp : p.length < 2 ^ 62) (hfl : p.length + 2 ≤ fuel) (hoff : off.toNat ≤ p.length) :
    Total (Decoder_DecodePackedSint32 fuel p off mode ks ke) (·.d_p) p :=
  .of_refines (DecodePackedSint32_refines fuel hf p off mode ks ke false hp hfl hoff)
theorem DecodePackedFixed64_total (hp : p.length < 2 ^ 62) (hfl : p.length + 2 ≤ fuel) (hoff : off.toNat ≤ p.length) :
    Total (Decoder_DecodePackedFixed64 fuel p off mode ks ke) (·.d_p) p :=
  .of_refines (DecodePackedFixed64_refines fuel hf p off mode ks ke false hp hfl hoff)
theorem DecodePackedFixed32_total (hp : p.length < 2 ^ 62) (hfl : p.length + 2 ≤ fuel) (hoff : off.toNat ≤ p.length) :
    Total (Decoder_DecodePackedFixed32 fuel p off mode ks ke) (·.d_p) p :=
  .of_refines (DecodePackedFixed32_refines fuel hf p off mode ks ke false hp hfl hoff)
theorem DecodePackedBool_total (hp : p.length < 2 ^ 62) (hfl : p.length + 2 ≤ fuel) (hoff : off.toNat ≤ p.length) :
    Total (Decoder_DecodePackedBool fuel p off mode ks ke) (·.d_p) p :=
  .of_refines (DecodePackedBool_refines fuel hf p off mode ks ke false hp hfl hoff)

end Csproto.C03.Source
