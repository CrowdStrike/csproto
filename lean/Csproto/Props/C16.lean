import Csproto.Bridge.Templates
/-
  C16 — The generator is total, deterministic and emits compiling code.

  What a Lean model can carry of this property (see DESIGN §5 C16 for what it cannot — "valid Go that
  compiles" is decided by the Go compiler on the corpus, determinism by re-running the plug-in):

  * **routing is total** (`routing_total`) — every kind of the protobuf language is routed by `SizeOfField`,
    `MarshalField`, `UnmarshalField` to exactly one snippet (regenerated from the template text; the arms of
    the oneof, extension and number snippets are in `Bridge/Templates.lean`).  A kind missing from
    one of the dispatchers would make the plug-in "succeed" while silently generating no code for such
    fields.
  * **output names** — the name plan of `run.go` (regenerated): one file `<prefix>.pb.fm.go`, or with
    `filepermessage=true` one file `<prefix>_<lower(short message name)>.pb.fm.go` per message.
    `single_file_one_name`, `per_message_names_distinct_iff`: the names are pairwise distinct **iff** the
    lower-cased *short* names of the file's messages are; `collision_witness` exhibits the two schemas
    for which they are not (`Outer.Inner` next to `Inner`; `Foo` next to `FOO`) — the open finding B15.
  * **determinism** — `generator_keeps_no_state_fact`, `value_option_stores_fact` (regenerated from the go/ast of
    the plug-in) and `special_names_order_free` for the one option that accumulates values.
-/
namespace Csproto.C16
open Csproto

abbrev Name := List Char

def lower (n : Name) : Name := n.map Char.toLower

def suffix : Name := ".pb.fm.go".toList

/-- the name plan of `run.go` -/
def outputNames (pfx : Name) (perMessage : Bool) (shortNames : List Name) : List Name :=
  if perMessage then shortNames.map fun n => pfx ++ ('_' :: (lower n ++ suffix))
  else [pfx ++ suffix]

theorem single_file_one_name (pfx : Name) (ns : List Name) : (outputNames pfx false ns).length = 1 := rfl

theorem per_message_one_file_per_message (pfx : Name) (ns : List Name) :
    (outputNames pfx true ns).length = ns.length := by simp [outputNames]

theorem name_inj (pfx a b : Name) : pfx ++ ('_' :: (a ++ suffix)) = pfx ++ ('_' :: (b ++ suffix)) ↔ a = b := by
  rw [List.append_cancel_left_eq, List.cons.injEq, eq_self, true_and, List.append_cancel_right_eq]

/-- **the per-message files are pairwise distinct iff the lower-cased short message names are** -/
theorem per_message_names_distinct_iff (pfx : Name) (ns : List Name) :
    (outputNames pfx true ns).Nodup ↔ (ns.map lower).Nodup := by
  -- both sides are `Pairwise (· ≠ ·)` of a `map` over `ns`; two file names agree iff the lowered names do
  simp only [outputNames, if_true, List.Nodup, List.pairwise_map, ne_eq, name_inj]

/-- two messages whose short names agree up to case collide -/
theorem collision {pfx a b : Name} (h : lower a = lower b) : ¬ (outputNames pfx true [a, b]).Nodup := by
  rw [per_message_names_distinct_iff]
  simp [h]

/-- B15: two valid schemas for which two output files get the same name -/
theorem collision_witness :
    ¬ (outputNames "f".toList true ["Inner".toList, "Inner".toList]).Nodup ∧   -- Outer.Inner and Inner
    ¬ (outputNames "f".toList true ["Foo".toList, "FOO".toList]).Nodup :=
  ⟨collision rfl, collision (by decide +kernel)⟩

/-- the suffixes are the ones run.go uses (regenerated) -/
theorem name_plan_fact :
    Generated.nameSuffixes = [".pb.fm.go", "_{{.Message.Desc.Name | string | lower}}.pb.fm.go"] := rfl

/-- the plug-in keeps no state between the files of a request: no function of its package writes to a
    package-level variable (regenerated from the go/ast of `cmd/protoc-gen-fastmarshal`). What is generated for a
    .proto file is then a function of the request's descriptors, the options and that file alone; the exploration
    compares every file of the multi-file requests with the one-file request for it. -/
theorem generator_keeps_no_state_fact : Generated.generatorGlobalsWritten = [] := rfl

/-- the value options of the generator (flag.Value implementations; `Set` runs once per `name=value` token, so a
    repeatable option receives its values one call at a time, in the order of the parameter string): `apiversion` keeps a
    string (the last value), `specialname` keeps a Go map used as a set (regenerated from the go/ast of
    `cmd/protoc-gen-fastmarshal`). -/
theorem value_option_stores_fact :
    Generated.generatorValueOptionStores =
      [("apiversion", "protoAPIVersion", "string"), ("specialname", "specialNames", "map[string]struct{}")] := rfl

/-- `specialNames.Set` once per value (insert into the map), then `IsSpecial` (look the key up) -/
def insertAll (store : String → Bool) : List String → String → Bool
  | [] => store
  | v :: vs => insertAll (fun n => n == v || store n) vs

theorem insertAll_mem (vs : List String) (store : String → Bool) (n : String) :
    insertAll store vs n = (vs.contains n || store n) := by
  induction vs generalizing store with
  | nil => simp [insertAll]
  | cons v vs ih =>
    simp only [insertAll, ih, List.contains_cons]
    cases h1 : vs.contains n <;> cases h2 : (n == v) <;> simp

/-- the set answers membership queries by the values it was given, however often and in whichever order they came.
    The exploration passes two, three and six names in ascending, descending and mixed order and with repetitions
    (`genpipe.RepeatedShapes`) and requires the generated code to be the same. -/
theorem special_names_order_free (a b : List String) (h : ∀ n, n ∈ a ↔ n ∈ b) (n : String) :
    insertAll (fun _ => false) a n = insertAll (fun _ => false) b n := by
  rw [insertAll_mem, insertAll_mem, Bool.or_false, Bool.or_false, Bool.eq_iff_iff]
  simp [h n]

/-- routing (see `Bridge/Templates.lean`) -/
theorem routing_total :
    (∀ k ∈ Bridge.Templates.allKinds, Generated.sizeDispatchKinds.count k = 1) ∧
    (∀ k ∈ Bridge.Templates.allKinds, Generated.marshalDispatchKinds.count k = 1) ∧
    (∀ k ∈ Bridge.Templates.allKinds, Generated.unmarshalDispatchKinds.count k = 1) :=
  ⟨Bridge.Templates.size_dispatch_total, Bridge.Templates.marshal_dispatch_total, Bridge.Templates.unmarshal_dispatch_total⟩

/-- non-vacuity: distinct short names give distinct files -/
example : (outputNames "x".toList true ["A".toList, "Bc".toList, "b".toList]).Nodup := by decide +kernel

end Csproto.C16
