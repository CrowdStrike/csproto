import Csproto.Bridge.SkipFuncs
/-
  C03 for the SOURCE: totality and bounds-safety of the Decoder methods TRANSLATED from `/repo`'s current decoder.go.

  `*_safe`: for every buffer a Go slice can hold, every cursor inside it, every mode and every remembered key span
  inside the buffer, each of `DecodeTag`, `DecodeUInt64`, `DecodeInt64`, `DecodeUInt32`, `DecodeInt32`, `DecodeSInt32`,
  `DecodeSInt64`, `DecodeFixed32`, `DecodeFixed64`, `DecodeBytes` and `Skip` (any expected tag / wire type) RETURNS — it does not
  panic (no index or slice bounds out of range in any statement, callee included) and does not run out of fuel (its loops
  terminate) — leaves the buffer field alone, and when it reports an error the cursor has not moved.  (The cursor after a
  successful call is the model's, which `C03.step_safe` keeps inside the buffer: `Props/C03SourceRange`.)  A consequence of
  the refinement of `Dec.step` by each method (`Agrees`: `Bridge/DecoderFuncs`, `Bridge/SkipFuncs`); no function of the model
  occurs in the statement.
-/
set_option linter.unusedSectionVars false
namespace Csproto.C03.Source
open Csproto Csproto.Generated.WireFuncs Csproto.Bridge Csproto.Bridge.WireFuncs Csproto.Bridge.DecoderFuncs Csproto.Bridge.SkipFuncs

/-- what "total" means for one call that returns `(value, error)`: it returns (no panic, no divergence), the buffer field is
    untouched, and a call that reports an error has not moved the cursor -/
def Safe {σ ρ : Type} (out : Go.Out σ (ρ × Go.Err)) (getp : σ → Bytes) (geto : σ → BitVec 64) (p : Bytes) (off : BitVec 64) : Prop :=
  ∃ r e s, out = .ret (r, e) s ∧ getp s = p ∧ (e ≠ .nil → geto s = off)

theorem Safe.of_agrees {σ ρ α : Type} {view : σ → Recv} {val : ρ → α} {mk : α → Item} {d : Recv} {fast : Bool} {op : DecOp}
    {out : Go.Out σ (ρ × Go.Err)} (h : Agrees view val mk d fast op out) :
    Safe out (fun s => (view s).frame.p) (fun s => (view s).off) d.frame.p d.off := by
  obtain ⟨r, e, s, ho, hf, hm⟩ := h
  refine ⟨r, e, s, ho, congrArg Frame.p hf, fun hne => ?_⟩
  rcases hm with ⟨_, _, he, _⟩ | ⟨_, _, h⟩
  · exact absurd he hne
  · exact h

variable (fuel : Nat) (hf : 11 ≤ fuel) (p : Bytes) (off mode ks ke : BitVec 64)
include hf

theorem DecodeUInt64_safe (hp : p.length < 2 ^ 63) (hoff : off.toNat ≤ p.length) :
    Safe (Decoder_DecodeUInt64 fuel p off mode ks ke) (·.d_p) (·.d_offset) p off :=
  .of_agrees (DecodeUInt64_sim fuel p off mode ks ke false hp hoff hf)
theorem DecodeInt64_safe (hp : p.length < 2 ^ 63) (hoff : off.toNat ≤ p.length) :
    Safe (Decoder_DecodeInt64 fuel p off mode ks ke) (·.d_p) (·.d_offset) p off :=
  .of_agrees (DecodeInt64_sim fuel p off mode ks ke false hp hoff hf)
theorem DecodeUInt32_safe (hp : p.length < 2 ^ 63) (hoff : off.toNat ≤ p.length) :
    Safe (Decoder_DecodeUInt32 fuel p off mode ks ke) (·.d_p) (·.d_offset) p off :=
  .of_agrees (DecodeUInt32_sim fuel p off mode ks ke false hp hoff hf)
theorem DecodeInt32_safe (hp : p.length < 2 ^ 63) (hoff : off.toNat ≤ p.length) :
    Safe (Decoder_DecodeInt32 fuel p off mode ks ke) (·.d_p) (·.d_offset) p off :=
  .of_agrees (DecodeInt32_sim fuel p off mode ks ke false hp hoff hf)
theorem DecodeSInt32_safe (hp : p.length < 2 ^ 63) (hoff : off.toNat ≤ p.length) :
    Safe (Decoder_DecodeSInt32 fuel p off mode ks ke) (·.d_p) (·.d_offset) p off :=
  .of_agrees (DecodeSInt32_sim fuel p off mode ks ke false hp hoff hf)
theorem DecodeSInt64_safe (hp : p.length < 2 ^ 63) (hoff : off.toNat ≤ p.length) :
    Safe (Decoder_DecodeSInt64 fuel p off mode ks ke) (·.d_p) (·.d_offset) p off :=
  .of_agrees (DecodeSInt64_sim fuel p off mode ks ke false hp hoff hf)
theorem DecodeFixed32_safe (hp : p.length < 2 ^ 63) (hoff : off.toNat ≤ p.length) :
    Safe (Decoder_DecodeFixed32 fuel p off mode ks ke) (·.d_p) (·.d_offset) p off :=
  .of_agrees (DecodeFixed32_sim fuel p off mode ks ke false hp hoff)
theorem DecodeFixed64_safe (hp : p.length < 2 ^ 63) (hoff : off.toNat ≤ p.length) :
    Safe (Decoder_DecodeFixed64 fuel p off mode ks ke) (·.d_p) (·.d_offset) p off :=
  .of_agrees (DecodeFixed64_sim fuel p off mode ks ke false hp hoff)
theorem DecodeBytes_safe (hp : p.length < 2 ^ 62) (hoff : off.toNat ≤ p.length) :
    Safe (Decoder_DecodeBytes fuel p off mode ks ke) (·.d_p) (·.d_offset) p off :=
  .of_agrees (DecodeBytes_sim fuel hf p off mode ks ke false hp hoff)
theorem Skip_safe (tag wt : BitVec 64) (hp : p.length < 2 ^ 62) (hoff : off.toNat ≤ p.length)
    (hks : ks.toNat ≤ p.length) (hke : ke.toNat ≤ p.length) :
    Safe (Decoder_Skip fuel p off mode ks ke tag wt) (·.d_p) (·.d_offset) p off :=
  .of_agrees (Skip_sim fuel hf p off mode ks ke tag wt hp hoff hks hke)

/-- `DecodeTag` (three results): returns, buffer untouched, an error leaves cursor AND remembered key span alone -/
theorem DecodeTag_safe (hp : p.length < 2 ^ 63) (hoff : off.toNat ≤ p.length) :
    ∃ t w e s, Decoder_DecodeTag fuel p off mode ks ke = .ret (t, w, e) s ∧ s.d_p = p ∧
      (e ≠ .nil → s.d_offset = off ∧ s.d_keyStart = ks ∧ s.d_keyEnd = ke) := by
  obtain ⟨t, w, e, s, hr, hp', _, hm⟩ := DecodeTag_refines fuel hf p off mode ks ke false hp hoff
  refine ⟨t, w, e, s, hr, hp', fun hne => ?_⟩
  split at hm
  · exact absurd hm.1 hne
  · exact hm.2
  · exact hm.elim

end Csproto.C03.Source
