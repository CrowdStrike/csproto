import Csproto.Props.C04
import Csproto.Props.C05
import Csproto.Proofs.GenNoMaps
/-
  proto2 extensions inside the model of the generated code (C04, C05, C06).

  What the templates do (`SizeOfExtension`, `MarshalExtension`, `UnmarshalExtension`,
  `UnmarshalRepeatedExtension` of `fieldsnippets.tmpl`; called by both file templates after the declared
  fields and the members of the real oneofs, `range getExtensions .`, for proto2 files only):

    if csproto.HasExtension(m, E_x) { extVal, _ := csproto.GetExtension(m, E_x); <the arm of the field's kind> }

  * a SINGULAR extension is an explicit-presence field whose pointer lives in the runtime's extension store instead
    of the Go struct: presence is `HasExtension`, the value is written whatever it is (zero, false, empty), a
    second occurrence on the wire replaces the first (`SetExtension`), the wire type must be the kind's own.
    That is arm for arm `Card.explicit`.
  * a REPEATED extension (finding B32, fixed by e89f5e1: the snippets had treated it as a singular one) holds a
    slice: one record per element on the way out, every occurrence — one value per record or, for the numeric
    kinds, packed — appended on the way in.  That is arm for arm `Card.list`.

  So the generated code of a message type `md` that knows the extensions `xs` IS the generated code of the
  message type `withExts md xs`, run on the declared fields followed by what the extension store holds
  (`extFields`).  The line protocol renders it exactly like that (`harness/gencheck/model.go`: `knownExtensions` in
  the order of the generator's `getExtensions`; card token `x` = `Card.explicit`, `l` = `Card.list`), and the
  correspondence check compares this model with the generated code on every corpus message that carries
  extensions (all kinds, singular and repeated, message-typed ones, three runtimes).

  The extension store itself is the runtime's; `Props/C12.lean` proves csproto's accessors coherent against an
  abstract map.  Here the store is that abstract map, with field states as values (`XStore`).

  Every theorem of C04–C08 quantifies over all message types, hence over `withExts md xs` too; the corollaries
  below spell out what that means for extensions.
-/
namespace Csproto.Ext
open Csproto Csproto.Gen

/-- the field descriptor the generated code's extension arms amount to -/
def extFD (num : Nat) (ty : Ty) (repeated : Bool) : FD :=
  { num := num, ty := ty, card := if repeated then .list else .explicit }

/-- a message type together with the extensions its generated code knows (visited last) -/
def withExts (md : MD) (xs : List FD) : MD := md ++ xs

/-- the runtime's extension store, abstractly: field number ↦ state -/
abbrev XStore := List (Nat × F)

def xget (s : XStore) (k : Nat) : F := ((s.find? (fun p => p.1 == k)).map (·.2)).getD .unset
def xset (s : XStore) (k : Nat) (f : F) : XStore := (k, f) :: s.filter (fun p => p.1 != k)
def xclear (s : XStore) (k : Nat) : XStore := s.filter (fun p => p.1 != k)

/-- `HasExtension` / `GetExtension` for every known extension, in the generator's order -/
def extFields (xs : List FD) (s : XStore) : List F := xs.map fun fd => xget s fd.num

theorem xget_set (s : XStore) (k : Nat) (f : F) : xget (xset s k f) k = f := by
  simp [xget, xset]

theorem xget_clear (s : XStore) (k : Nat) : xget (xclear s k) k = .unset := by
  have h : (xclear s k).find? (fun p => p.1 == k) = none := by
    simp only [xclear, List.find?_eq_none, List.mem_filter]
    intro p hp; simpa using hp.2
  simp [xget, h]

theorem xget_empty (k : Nat) : xget [] k = .unset := by simp [xget]

/-- `Size()` = bytes written, for a message type with known extensions, whatever the store holds -/
theorem size_exact (S : Schema) (md : MD) (xs : List FD) (fs : List F) (s : XStore) (unk : Bytes) (ops : List EncOp)
    (hok : OKFields S (withExts md xs) (fs ++ extFields xs s))
    (ho : opsFields S (withExts md xs) (fs ++ extFields xs s) = .ok ops) :
    sizeFields S (withExts md xs) (fs ++ extFields xs s) + unk.length = (Gen.wiresOf (ops ++ [EncOp.raw unk])).length :=
  C04.size_exact S _ _ unk ops hok ho

/-- `MarshalTo` into a buffer of `Size()` bytes: no panic, exact fill — with extensions -/
theorem marshalTo_fills (S : Schema) (md : MD) (xs : List FD) (fs : List F) (s : XStore) (unk : Bytes) (ops : List EncOp)
    (hok : OKFields S (withExts md xs) (fs ++ extFields xs s))
    (ho : opsFields S (withExts md xs) (fs ++ extFields xs s) = .ok ops) :
    ∃ e, (Enc.new (sizeFields S (withExts md xs) (fs ++ extFields xs s) + unk.length)).run (ops ++ [EncOp.raw unk]) = .ok e ∧
      e.off = e.cap ∧ e.buf = Gen.wiresOf ops ++ unk := by
  obtain ⟨e, h1, h2, _, h4⟩ := C04.marshalTo_fills S _ _ unk ops hok ho
  exact ⟨e, h1, h2, h4⟩

/-- an extension that was never set, or was cleared, contributes nothing to `Size()` and nothing to the bytes -/
theorem cleared_extension_emits_nothing (S : Schema) (num : Nat) (ty : Ty) (rep : Bool) (s : XStore) :
    opsField S (extFD num ty rep) (xget (xclear s num) num) = .ok [] ∧
    sizeField S (extFD num ty rep) (xget (xclear s num) num) = 0 := by
  rw [xget_clear]
  apply C05.unset_emits_nothing
  unfold extFD; cases rep <;> simp

theorem never_set_extension_emits_nothing (S : Schema) (num : Nat) (ty : Ty) (rep : Bool) :
    opsField S (extFD num ty rep) (xget [] num) = .ok [] ∧ sizeField S (extFD num ty rep) (xget [] num) = 0 := by
  rw [xget_empty]
  apply C05.unset_emits_nothing
  unfold extFD; cases rep <;> simp

/-- a singular scalar extension that is set is written whatever its value: zero, false and the empty string
    included (no default is suppressed, nothing is dropped) -/
theorem set_extension_always_emitted (S : Schema) (num : Nat) (k : SK) (v : V) (s : XStore) :
    opsField S (extFD num (.sc k) false) (xget (xset s num (.one v)) num) = .ok [scalarOp k num v] := by
  rw [xget_set]
  exact C05.explicit_always_emitted S num k v .explicit (Or.inl rfl)

/-- a repeated scalar extension is written one record per element, in order (B32) -/
theorem repeated_extension_one_record_per_element (S : Schema) (num : Nat) (k : SK) (vs : List V) (s : XStore) :
    opsField S (extFD num (.sc k) true) (xget (xset s num (.many vs)) num) = .ok (vs.map (scalarOp k num)) := by
  rw [xget_set]; simp [extFD, opsField]

/-- a repeated scalar extension is sized one record per element -/
theorem repeated_extension_size (S : Schema) (num : Nat) (k : SK) (vs : List V) :
    sizeField S (extFD num (.sc k) true) (.many vs) = sumSizes (scalarSize k num) vs := by
  simp [extFD, sizeField]

/-- the empty list is "not set": nothing is written -/
theorem empty_repeated_extension_emits_nothing (S : Schema) (num : Nat) (ty : Ty) :
    opsField S (extFD num ty true) (.many []) = .ok [] ∧ sizeField S (extFD num ty true) (.many []) = 0 :=
  C05.empty_list_emits_nothing S _

/-- `SetExtension(m, E_x, []T{})`: the store HOLDS an empty list (Gogo / golang v1 then answer `HasExtension` = true,
    google v2 answers false).  Whatever the descriptor's arm — one record per element (`Card.list`, what the templates
    do whatever the declaration says) or one packed record (`Card.packed`, what a `[packed=true]` declaration asks
    for) — nothing is written and nothing is counted: a list without elements is not on the wire, so `Size()` must not
    reserve a key and a length for it either.  (The harness sets every repeated extension a value does not carry to an
    empty non-nil list through the runtime's own `SetExtension`, on the message and on the messages nested in it;
    corpus schema `extpacked` declares one `[packed=true]` extension per packable kind.) -/
theorem set_to_empty_list_emits_nothing (S : Schema) (fd : FD) (s : XStore) :
    opsField S fd (xget (xset s fd.num (.many [])) fd.num) = .ok [] ∧
    sizeField S fd (xget (xset s fd.num (.many [])) fd.num) = 0 := by
  rw [xget_set]
  exact C05.empty_list_emits_nothing S fd

/-- a message whose extension was set to the empty list marshals like one whose extension was cleared -/
theorem set_to_empty_list_like_cleared (S : Schema) (num : Nat) (ty : Ty) (s : XStore) :
    opsField S (extFD num ty true) (xget (xset s num (.many [])) num) = opsField S (extFD num ty true) (xget (xclear s num) num) ∧
    sizeField S (extFD num ty true) (xget (xset s num (.many [])) num) = sizeField S (extFD num ty true) (xget (xclear s num) num) := by
  have h1 := set_to_empty_list_emits_nothing S (extFD num ty true) s
  have h2 := cleared_extension_emits_nothing S num ty true s
  have hn : (extFD num ty true).num = num := rfl
  rw [hn] at h1
  exact ⟨h1.1.trans h2.1.symm, h1.2.trans h2.2.symm⟩

/-- extension descriptors never break the schema conditions of the round-trip theorems -/
theorem extFD_card (num : Nat) (ty : Ty) (rep : Bool) :
    (extFD num ty rep).card ≠ .map ∧ (extFD num ty rep).card ≠ .always := by
  unfold extFD; cases rep <;> simp

/-- **round trip of a message with extensions** (any nesting depth, message-typed and repeated extensions
    included, unknown fields retained, either decoder mode): instance of `roundtrip_nested` at a message type
    of the form `withExts md xs` -/
theorem roundtrip (S : Schema) (hS : SchemaOK S) (fast : Bool) (i : Nat) (md : MD) (xs : List FD) (hmd : S.md i = withExts md xs)
    (fs : List F) (s : XStore) (urs : List Rec) (ops : List EncOp)
    (hwf : WFs S (withExts md xs) (fs ++ extFields xs s)) (hex : Excl (withExts md xs) (fs ++ extFields xs s))
    (hok : OKFields S (withExts md xs) (fs ++ extFields xs s))
    (hu : ∀ r ∈ urs, r.OK ∧ findField (withExts md xs) r.tag 0 = none)
    (ho : opsFields S (withExts md xs) (fs ++ extFields xs s) = .ok ops) :
    unmarshal S fast (withExts md xs) (Gen.wiresOf ops ++ Csproto.wiresOf urs)
      = .ok (canonFs S (withExts md xs) (fs ++ extFields xs s), Csproto.wiresOf urs) := by
  have := roundtrip_nested S hS fast i (fs ++ extFields xs s) urs ops (hmd ▸ hwf) (hmd ▸ hex) (hmd ▸ hok)
    (by intro r hr; rw [hmd]; exact hu r hr) (hmd ▸ ho)
  rw [hmd] at this; exact this

/-! ## non-vacuity: a concrete message type with a singular and a repeated extension -/

/-- `message Base { optional int32 id = 1; extensions 100 to 199; }`,
    `extend Base { optional bool flag = 100; repeated sint32 deltas = 101; }` -/
def exMD : MD := [⟨1, .sc .int32, .explicit⟩]
def exXs : List FD := [extFD 100 (.sc .bool) false, extFD 101 (.sc .sint32) true]
def exStore : XStore := xset (xset [] 100 (.one (.num 0))) 101 (.many [.num 1, .num 4294967295])

def exBytes (fs : List F) : Option Bytes :=
  match opsFields [exMD ++ exXs] (withExts exMD exXs) fs with
  | .ok ops => some (Gen.wiresOf ops)
  | _ => none

/-- id = 7, flag = false (set!), deltas = [1, -1]: `08 07 | a0 06 00 | a8 06 02 | a8 06 01`, and `Size()` = 11 -/
example : exBytes ([.one (.num 7)] ++ extFields exXs exStore)
      = some [0x08, 0x07, 0xa0, 0x06, 0x00, 0xa8, 0x06, 0x02, 0xa8, 0x06, 0x01] ∧
    sizeFields [exMD ++ exXs] (withExts exMD exXs) ([.one (.num 7)] ++ extFields exXs exStore) = 11 := by
  constructor
  · decide +kernel
  · rfl

/-- after `ClearExtension(flag)` the flag is gone from the bytes, the rest is untouched -/
example : exBytes ([.one (.num 7)] ++ extFields exXs (xclear exStore 100))
      = some [0x08, 0x07, 0xa8, 0x06, 0x02, 0xa8, 0x06, 0x01] := by decide +kernel

end Csproto.Ext
