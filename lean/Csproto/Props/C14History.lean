import Csproto.Props.C14Nested
/-
  C14, whole histories on root results: the special case of `Props/C14Nested.lean` without nested results.

  `flat_history_refines` shows that the pooled state machine of `Model/Pool.lean` produces, for every history
  of Decode / accessor / Range / Close operations on root results, with every choice the pool may make (any
  pooled object, or a new one), exactly the outputs of `Spec` (`Props/C14Spec.lean`) — provided handles are not
  used after their `Close` (an immediately repeated `Close` excepted), which is the contract of the API.

  The proof runs the nested specification `NSpec` beside `Spec`: on such histories the two answer alike
  (`Sim`), and the machine refines `NSpec` step by step.  The contract here is weaker than the nested one in one
  point: the ids of new objects are not bounded by the machine's private counter `anon` (`nopOK_of_opOK`).
-/
namespace Csproto.C14
open Csproto

section
open Csproto.C14N

/-- a handle of the nested specification as the flat one sees it -/
def flatH : NH → SH
  | .nilRes => .nilRes
  | .live b _ _ => .live b
  | .closed => .closed

/-- the flat specification beside the nested one: same handles, all of them root results, one per generation -/
structure Sim (sp : Spec) (nsp : NSpec) : Prop where
  root : nsp.root = sp.root
  justClosed : nsp.justClosed = sp.justClosed
  handles : ∀ h, sp.handle? h = (nsp.handle? h).map flatH
  flat : ∀ h b p g, nsp.handle? h = some (.live b p g) → p = [] ∧ g < nsp.gen
  inj : ∀ h h' b b' p p' g, nsp.handle? h = some (.live b p g) → nsp.handle? h' = some (.live b' p' g) → h = h'

@[simp] theorem shandle_setHandle (sp : Spec) (h h' : Nat) (v : SH) :
    (sp.setHandle h v).handle? h' = if h' = h then some v else sp.handle? h' := find_set _ _ _ _

theorem Sim.init (root : LDec) : Sim (Spec.init root) (NSpec.init root) :=
  ⟨rfl, rfl, fun _ => rfl, fun _ _ _ _ h => (by cases h), fun _ _ _ _ _ _ _ h => (by cases h)⟩

theorem Sim.clr {sp : Spec} {nsp : NSpec} (m : Sim sp nsp) : Sim { sp with justClosed := none } nsp.clr :=
  { m with justClosed := rfl }

/-- one handle is rebound on both sides: to the nil result, to `closed`, or to a root result of a new generation -/
theorem Sim.set {sp sp' : Spec} {nsp nsp' : NSpec} (m : Sim sp nsp) (h : Nat) (v : NH) (hroot : nsp'.root = sp'.root)
    (hjc : nsp'.justClosed = sp'.justClosed)
    (hsp : ∀ h', sp'.handle? h' = if h' = h then some (flatH v) else sp.handle? h')
    (hnsp : ∀ h', nsp'.handle? h' = if h' = h then some v else nsp.handle? h') (hn : nsp.gen ≤ nsp'.gen)
    (hv : ∀ b p g, v = .live b p g → p = [] ∧ g = nsp.gen ∧ g < nsp'.gen) : Sim sp' nsp' where
  root := hroot
  justClosed := hjc
  handles := fun h' => by by_cases e : h' = h <;> simp [hsp, hnsp, e, m.handles h']
  flat := fun h' b p g hh => by
    rw [hnsp] at hh
    by_cases e : h' = h
    · obtain ⟨h1, _, h3⟩ := hv b p g (by simpa [e] using hh)
      exact ⟨h1, h3⟩
    · obtain ⟨h1, h2⟩ := m.flat h' b p g (by simpa [e] using hh)
      exact ⟨h1, Nat.lt_of_lt_of_le h2 hn⟩
  inj := fun h1 h2 b b' p p' g a1 a2 => by
    rw [hnsp] at a1 a2
    -- the generation of `v` is new: no other handle has it
    have hnew : ∀ h' b p, nsp.handle? h' = some (.live b p g) → ∀ b' p', v ≠ .live b' p' g :=
      fun h' b p hh b' p' e => absurd (m.flat h' b p g hh).2 (by rw [(hv b' p' g e).2.1]; exact Nat.lt_irrefl _)
    by_cases e1 : h1 = h <;> by_cases e2 : h2 = h
    · rw [e1, e2]
    · exact absurd (by simpa [e1] using a1) (hnew h2 b' p' (by simpa [e2] using a2) b p)
    · exact absurd (by simpa [e2] using a2) (hnew h1 b p (by simpa [e1] using a1) b' p')
    · exact m.inj h1 h2 b b' p p' g (by simpa [e1] using a1) (by simpa [e2] using a2)

/-- what the two specifications hold for a handle -/
theorem Sim.handle {sp : Spec} {nsp : NSpec} (m : Sim sp nsp) (h : Nat) :
    (nsp.handle? h = none ∧ sp.handle? h = none) ∨ (nsp.handle? h = some .nilRes ∧ sp.handle? h = some .nilRes) ∨
    (nsp.handle? h = some .closed ∧ sp.handle? h = some .closed) ∨
    ∃ b g, nsp.handle? h = some (.live b [] g) ∧ sp.handle? h = some (.live b) := by
  have := m.handles h
  match hv : nsp.handle? h with
  | none => rw [hv] at this; exact Or.inl ⟨rfl, this⟩
  | some .nilRes => rw [hv] at this; exact Or.inr (Or.inl ⟨rfl, this⟩)
  | some .closed => rw [hv] at this; exact Or.inr (Or.inr (Or.inl ⟨rfl, this⟩))
  | some (.live b p g) =>
    rw [hv] at this
    obtain ⟨rfl, _⟩ := m.flat h b p g hv
    exact Or.inr (Or.inr (Or.inr ⟨b, g, rfl, this⟩))

/-- the contract of a root-result history is the nested contract, but for the bound on new ids -/
theorem nopOK_of_opOK {s : LState} {sp : Spec} {nsp : NSpec} (m : Sim sp nsp) {op : LOp} (hok : OpOK s sp op) :
    match op with
    | .decode _ input c => input.isEmpty = false → ChoiceIn s [] c
    | .acc _ path _ => path.length ≤ 1 ∧ NOpOK s nsp op
    | .range _ => NOpOK s nsp op
    | .close _ => NOpOK s nsp op
    | _ => False := by
  have hcl : ∀ h, nsp.handle? h = some .closed → sp.handle? h = some .closed := fun h e => by
    have := m.handles h; rw [e] at this; exact this
  cases op with
  | decode h input c => exact fun hne => choiceIn_root.mpr (hok hne)
  | acc h path a => exact ⟨hok.1, fun e => hok.2 (hcl h e)⟩
  | range h => exact fun e => hok (hcl h e)
  | close h => exact fun e => m.justClosed ▸ hok (hcl h e)
  | nested _ _ _ _ => exact hok
  | nesteds _ _ _ _ => exact hok

/-- on root-result histories the two specifications answer alike, and stay side by side -/
theorem spec_sim {s : LState} {sp : Spec} {nsp : NSpec} {G : GMap} (r : Inv s nsp G) (m : Sim sp nsp) (op : LOp)
    (hok : OpOK s sp op) : (nsp.step op).2 = (sp.step op).2 ∧ Sim (sp.step op).1 (nsp.step op).1 := by
  -- the bytes of a live root handle decode (the invariant knows), so `view` and `fresh` agree on them
  have hview : ∀ h b g, nsp.handle? h = some (.live b [] g) → ∃ fds, view nsp.root [] b = some (sp.root, fds) ∧
      fresh sp.root b = .ok fds := fun h b g hv => by
    rcases r.handle h with ⟨e, _⟩ | ⟨e, _⟩ | e | ⟨b', p', g', id, node, fds, o, e, _, _, lv⟩ <;> rw [hv] at e <;> cases e
    obtain rfl : nsp.root = node := Option.some.inj lv.specNode
    exact ⟨fds, m.root ▸ lv.vw, m.root ▸ lv.clean⟩
  cases op with
  | nested _ _ _ _ => exact hok.elim
  | nesteds _ _ _ _ => exact hok.elim
  | decode h input c =>
    simp only [NSpec.step, Spec.step, m.root]
    by_cases he : input.isEmpty = true
    · simp only [he, if_true]
      exact ⟨trivial, m.set h .nilRes m.root rfl (fun _ => shandle_setHandle ..) (fun _ => nhandle_setHandle ..)
        (Nat.le_refl _) (fun _ _ _ e => by cases e)⟩
    · simp only [he]
      cases fresh sp.root input with
      | ok fds => exact ⟨rfl, m.set h (.live input [] nsp.gen) m.root rfl (fun _ => shandle_setHandle ..)
          (fun _ => nhandle_setHandle ..) (Nat.le_succ _) (fun _ _ _ e => by cases e; exact ⟨rfl, rfl, Nat.lt_succ_self _⟩)⟩
      | err => exact ⟨rfl, m.clr⟩
      | panic => exact ⟨rfl, m.clr⟩
  | acc h path a =>
    refine ⟨?_, m.clr⟩
    simp only [NSpec.step, Spec.step]
    rcases m.handle h with ⟨e1, e2⟩ | ⟨e1, e2⟩ | ⟨_, e2⟩ | ⟨b, g, e1, e2⟩
    · simp only [e1, e2]
    · simp only [e1, e2]
      match path, hok.1 with
      | [], _ => simp [lookupPath]
      | [t], _ => simp [lookupPath]
    · exact absurd e2 hok.2
    · obtain ⟨fds, h1, h2⟩ := hview h b g e1
      simp only [e1, e2, h1, h2]
      match path, hok.1 with
      | [], _ => simp [lookupPath]
      | [t], _ => simp [lookupPath]
  | range h =>
    refine ⟨?_, m.clr⟩
    simp only [NSpec.step, Spec.step]
    rcases m.handle h with ⟨e1, e2⟩ | ⟨e1, e2⟩ | ⟨_, e2⟩ | ⟨b, g, e1, e2⟩
    · simp only [e1, e2]
    · simp only [e1, e2]
    · exact absurd e2 hok
    · obtain ⟨fds, h1, h2⟩ := hview h b g e1
      simp only [e1, e2, h1, h2]
  | close h =>
    simp only [NSpec.step, Spec.step]
    rcases m.handle h with ⟨e1, e2⟩ | ⟨e1, e2⟩ | ⟨e1, e2⟩ | ⟨b, g, e1, e2⟩ <;> simp only [e1, e2, List.isEmpty_nil, if_true]
    · exact ⟨trivial, m.clr⟩
    · exact ⟨trivial, m.clr⟩
    · exact ⟨trivial, m⟩
    · -- closing every handle of generation `g` closes `h` alone
      refine ⟨trivial, m.set h .closed m.root rfl (fun _ => shandle_setHandle ..) (fun h' => ?_) (Nat.le_refl _)
        (fun _ _ _ e => by cases e)⟩
      show (nsp.closeAll g).handle? h' = _
      rw [nhandle_closeAll]
      by_cases e : h' = h
      · simp [e, e1, closeGen]
      · match hv : nsp.handle? h' with
        | none => simp [e]
        | some .nilRes => simp [e, closeGen]
        | some .closed => simp [e, closeGen]
        | some (.live b' p' g') =>
          have : g' ≠ g := fun eg => e (m.inj h' h b' b p' [] g (eg ▸ hv) e1)
          simp [e, closeGen, this]

/-- **one step**: the machine answers like the flat specification, the nested one beside it -/
theorem step_refines {s : LState} {sp : Spec} {nsp : NSpec} {G : GMap} (r : Inv s nsp G) (m : Sim sp nsp) (op : LOp)
    (hok : OpOK s sp op) :
    (s.step op).2 = (sp.step op).2 ∧ (nsp.step op).2 = (sp.step op).2 ∧
      ∃ G', Inv (s.step op).1 (nsp.step op).1 G' ∧ Sim (sp.step op).1 (nsp.step op).1 := by
  obtain ⟨key, m'⟩ := spec_sim r m op hok
  have hn := nopOK_of_opOK m hok
  have : StepRefines s nsp op := by
    cases op with
    | decode h input c => exact (step_decode r h input c hn).1
    | acc h path a => exact (step_acc r h path a (fun h2 => absurd hn.1 (by omega)) hn.2).1
    | range h => exact step_range r h hn
    | close h => exact step_close r h hn
    | nested _ _ _ _ => exact hn.elim
    | nesteds _ _ _ _ => exact hn.elim
  obtain ⟨e, G', r'⟩ := this
  exact ⟨e.trans key, key, G', r', m'⟩

theorem history_from (ops : List LOp) : ∀ (s : LState) (sp : Spec) (nsp : NSpec) (G : GMap), Inv s nsp G → Sim sp nsp →
    HistOK s sp ops → outputs s ops = Spec.outputs sp ops ∧ ∀ out ∈ outputs s ops, out ≠ .panic ∧ out ≠ .ans .panic := by
  induction ops with
  | nil => intro s sp nsp G _ _ _; exact ⟨rfl, by simp [outputs]⟩
  | cons op ops ih =>
    intro s sp nsp G r m hok
    obtain ⟨h1, h2, G', r', m'⟩ := step_refines r m op hok.1
    obtain ⟨i1, i2⟩ := ih _ _ _ G' r' m' hok.2
    refine ⟨by simp only [outputs, Spec.outputs, h1, i1], fun out ho => ?_⟩
    rcases List.mem_cons.mp ho with rfl | ho
    · rw [h1, ← h2]; exact nspec_no_panic r op
    · exact i2 out ho

end

/-- **C14 for root results, whole histories.**  For every decoder definition, pooled or not, every
    history of Decode / accessor / Range / Close operations on root results that keeps to the API
    contract, and every choice the pool makes at every Decode (a brand-new object or ANY object
    currently pooled), the observable outputs are those of the pool-free specification, in which every
    answer is computed from the handle's own input decoded into a brand-new object. -/
theorem flat_history_refines (root : LDec) (pooled : Bool) (ops : List LOp)
    (hok : HistOK (LState.init root pooled) (Spec.init root) ops) :
    outputs (LState.init root pooled) ops = Spec.outputs (Spec.init root) ops :=
  (history_from ops _ _ _ _ (C14N.Inv.init root pooled) (Sim.init root) hok).1

/-- **no operation of a root-result history panics**, whatever the pool hands out -/
theorem flat_history_no_panic (root : LDec) (pooled : Bool) (ops : List LOp)
    (hok : HistOK (LState.init root pooled) (Spec.init root) ops) :
    ∀ out ∈ outputs (LState.init root pooled) ops, out ≠ .panic ∧ out ≠ .ans .panic :=
  (history_from ops _ _ _ _ (C14N.Inv.init root pooled) (Sim.init root) hok).2

/-! ### non-vacuity: a concrete history that meets the contract and recycles an object

  Decode A into a new object 10 (tag 2 = "A"), read it, Close, Close again (the tolerated repetition),
  Decode B — which has no tag 2 — into the recycled object 10, read tag 2 and tag 1, Range, Close. -/
def rootEx : LDec := .mk [1, 2] []
def inA : Bytes := [0x08, 0x05, 0x12, 0x01, 0x41]
def inB : Bytes := [0x08, 0x07]
def histEx : List LOp :=
  [.decode 1 inA (.new 10), .acc 1 [2] .string, .close 1, .close 1,
   .decode 2 inB (.reuse 10), .acc 2 [2] .string, .acc 2 [1] .uint64, .range 2, .close 2]

theorem histEx_ok : HistOK (LState.init rootEx true) (Spec.init rootEx) histEx := by
  simp only [histEx, HistOK, OpOK, ChoiceOK, and_true]
  exact ⟨fun _ => by decide, by decide, by decide, by decide, fun _ => by decide, by decide, by decide, by decide, by decide⟩

/-- and the pooled machine's observable outputs on it (the second result, held by the recycled object 10,
    answers "not found" for tag 2 although the object carried "A" there in its previous life) -/
theorem histEx_outputs : outputs (LState.init rootEx true) histEx =
    [.ok, .ans (.ok (.bytes [0x41])), .ok, .ok, .ok, .ans .notFound, .ans (.ok (.nat 7)), .tags [(1, true), (2, false)], .ok] := by
  decide +kernel

end Csproto.C14
