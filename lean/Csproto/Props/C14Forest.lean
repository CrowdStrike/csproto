import Csproto.Props.C14
/-
  C14 with nested results, the store: the invariant `W` of the pooled machine's heap and pools (the *closer
  forest*), and what `close` and `decodeWithPool` do to it.

  A ghost map `G` says which objects are live and what they hold; the closers of a live object are live objects
  one level deeper of the same generation, no object is in two closer lists, pooled objects are not live (hence
  in no live closer list), are cleared, sit in the pool of their own decoder node, and no pool holds an object
  twice.  An object may be neither live nor pooled: that `Close` leaks nothing is not claimed, and a recycled
  nested object whose decode fails is dropped, in the model as in the implementation (`skipClose` stays set on
  it, so the `res.Close()` in `decodeWithPool` is a no-op).

  Every change of the state but one goes through `W.transfer` (what stays live is as it was and keeps its live
  closers; a new live object is a leaf); the exception is `W.adopt`, which appends a leaf to the closers of a live
  object.  `close` is specified relative to the ghost map (`CloseSpec`, `Closed`: it takes part of one generation
  below one level out of `G` and leaves alone whatever else is live, or neither live nor pooled) and proved by
  recursion on its fuel, for every fuel: running out of fuel leaves objects unreleased, which is safe.
  `decodeWithPool` is specified against what a brand-new object records (`DecodeSpec`), a failed pass being one
  more `close`.
-/
namespace Csproto.C14N
open Csproto Csproto.C14

/-- what a live object stands for: the bytes it was decoded from, the decoder node that decoded them, and its
    generation — the number of the root `Decode` it descends from (a nested result inherits its parent's) -/
structure Ghost where
  bytes : Bytes
  path : List Nat
  gen : Nat

abbrev GMap := Nat → Option Ghost

def GMap.rem (G : GMap) (c : Nat) : GMap := fun x => if x = c then none else G x
def GMap.set (G : GMap) (c : Nat) (d : Ghost) : GMap := fun x => if x = c then some d else G x

@[simp] theorem GMap.rem_apply (G : GMap) (c x : Nat) : (G.rem c) x = if x = c then none else G x := rfl
theorem GMap.rem_some {G : GMap} {c x : Nat} {d : Ghost} (h : (G.rem c) x = some d) : x ≠ c ∧ G x = some d := by
  have e : x ≠ c := fun e => by simp [e] at h
  exact ⟨e, by simpa [e] using h⟩

@[simp] theorem GMap.set_apply (G : GMap) (c x : Nat) (d : Ghost) : (G.set c d) x = if x = c then some d else G x := rfl

structure LiveObj (root : LDec) (G : GMap) (d : Ghost) (o : LObj) (node : LDec) (fds : List FD) : Prop where
  hpath : o.path = d.path
  hnode : decAt root d.path = some node
  hdec : decodeInto node.flat (cleanFds node.flat.length) d.bytes = .ok fds
  eq : FdsEq o.fds fds
  opn : o.closed = false
  skip : o.skipClose = !d.path.isEmpty
  nodup : o.closers.Nodup
  kids : ∀ c ∈ o.closers, ∃ dc, G c = some dc ∧ dc.gen = d.gen ∧ dc.path.length = d.path.length + 1

def PoolObj (root : LDec) (p : List Nat) (o : LObj) : Prop :=
  Cleared o ∧ o.path = p ∧ (∃ node, decAt root p = some node ∧ o.fds.length = node.flat.length) ∧
  (p = [] → o.skipClose = false)

structure W (s : LState) (root : LDec) (G : GMap) : Prop where
  live : ∀ id d, G id = some d → ∃ o node fds, s.obj? id = some o ∧ LiveObj root G d o node fds
  forest : ∀ i1 i2 d1 d2 o1 o2 c, G i1 = some d1 → G i2 = some d2 → s.obj? i1 = some o1 → s.obj? i2 = some o2 →
      c ∈ o1.closers → c ∈ o2.closers → i1 = i2
  pool : ∀ p id, id ∈ s.pool p → G id = none ∧ ∃ o, s.obj? id = some o ∧ PoolObj root p o
  nodup : ∀ p, (s.pool p).Nodup

def Detached (s : LState) (G : GMap) (c : Nat) : Prop := ∀ i d o, G i = some d → s.obj? i = some o → c ∉ o.closers

theorem ne_of_some_none {α β : Type} {f : α → Option β} {x y : α} {v : β} (hx : f x = some v) (hy : f y = none) : x ≠ y :=
  fun e => by rw [e, hy] at hx; cases hx

theorem GMap.set_sub (G : GMap) (nid : Nat) (dn : Ghost) (hg : G nid = none) : ∀ x dx, G x = some dx → (G.set nid dn) x = some dx := by
  intro x dx h
  have : x ≠ nid := ne_of_some_none h hg
  simp [this, h]

section forest
variable {s s' : LState} {root : LDec} {G G' : GMap}

theorem W.unpooled (w : W s root G) {id d} (h : G id = some d) (p : List Nat) : id ∉ s.pool p :=
  fun hm => by rw [(w.pool p id hm).1] at h; cases h

/-- the closers of live objects are live: a dead object is in no live closer list -/
theorem W.detached (w : W s root G) {c : Nat} (hc : G c = none) : Detached s G c := by
  intro i d o hi ho hm
  obtain ⟨o', _, _, h1, l⟩ := w.live i d hi
  obtain ⟨dc, h2, _⟩ := l.kids c (Option.some.inj (h1.symm.trans ho) ▸ hm)
  rw [hc] at h2; cases h2

theorem W.detached_root (w : W s root G) {id : Nat} {d : Ghost} (hd : G id = some d)
    (hp : d.path = []) : Detached s G id := by
  intro i di oi hi hoi hm
  obtain ⟨oi', _, _, h1, li⟩ := w.live i di hi
  obtain ⟨dc, h2, _, h3⟩ := li.kids id (Option.some.inj (h1.symm.trans hoi) ▸ hm)
  obtain rfl : d = dc := Option.some.inj (hd.symm.trans h2)
  simp [hp] at h3

theorem LiveObj.mono {d o node fds} (l : LiveObj root G d o node fds)
    (h : ∀ c ∈ o.closers, G' c = G c) : LiveObj root G' d o node fds :=
  { l with kids := fun c hc => h c hc ▸ l.kids c hc }

theorem clean_total (sub : LDec) (b : Bytes) :
    decodeInto sub.flat (cleanFds sub.flat.length) b ≠ .panic ∧
      ∀ fds', decodeInto sub.flat (cleanFds sub.flat.length) b = .ok fds' → fds'.length = sub.flat.length :=
  C13.decodeInto_total sub.flat (cleanFds sub.flat.length) b (by simp [cleanFds])

theorem LiveObj.len {d o node fds} (l : LiveObj root G d o node fds) : o.fds.length = node.flat.length :=
  l.eq.length.trans ((clean_total node d.bytes).2 fds l.hdec)

/-- `W` along a change of the state and of the ghost map: every object that is live afterwards either was
    live before, with the same record and the same live closers, or is a new leaf; the pools are checked anew -/
theorem W.transfer (w : W s root G)
    (hlive : ∀ x d, G' x = some d → (G x = some d ∧ s'.obj? x = s.obj? x) ∨
      ∃ o node fds, s'.obj? x = some o ∧ o.closers = [] ∧ LiveObj root G' d o node fds)
    (hkids : ∀ x d o, G x = some d → s.obj? x = some o → ∀ c ∈ o.closers, G' c = G c)
    (hpool : ∀ p x, x ∈ s'.pool p → G' x = none ∧ ∃ o, s'.obj? x = some o ∧ PoolObj root p o)
    (hnd : ∀ p, (s'.pool p).Nodup) : W s' root G' where
  live := by
    intro x d h
    rcases hlive x d h with ⟨hG, ho⟩ | ⟨o, node, fds, ho, _, l⟩
    · obtain ⟨o, node, fds, h1, l⟩ := w.live x d hG
      exact ⟨o, node, fds, ho ▸ h1, l.mono (hkids x d o hG h1)⟩
    · exact ⟨o, node, fds, ho, l⟩
  forest := by
    intro i1 i2 d1 d2 o1 o2 c a1 a2 h1 h2 m1 m2
    rcases hlive i1 d1 a1 with ⟨g1, e1⟩ | ⟨o, _, _, e1, n1, _⟩
    · rcases hlive i2 d2 a2 with ⟨g2, e2⟩ | ⟨o, _, _, e2, n2, _⟩
      · exact w.forest i1 i2 d1 d2 o1 o2 c g1 g2 (e1 ▸ h1) (e2 ▸ h2) m1 m2
      · rw [Option.some.inj (h2.symm.trans e2), n2] at m2; cases m2
    · rw [Option.some.inj (h1.symm.trans e1), n1] at m1; cases m1
  pool := hpool
  nodup := hnd

theorem W.ext (w : W s root G) (ho : ∀ i, s'.obj? i = s.obj? i)
    (hp : ∀ p, s'.pool p = s.pool p) : W s' root G :=
  w.transfer (fun x _ h => Or.inl ⟨h, ho x⟩) (fun _ _ _ _ _ _ _ => rfl)
    (fun p x h => by rw [hp] at h; rw [ho]; exact w.pool p x h) (fun p => hp p ▸ w.nodup p)

theorem W.rem (w : W s root G) (c : Nat) (hd : Detached s G c) : W s root (G.rem c) :=
  w.transfer
    (fun x d h => Or.inl ⟨(GMap.rem_some h).2, rfl⟩)
    (fun x d o hx ho c' hc' => by
      have : c' ≠ c := fun e => hd x d o hx ho (e ▸ hc')
      simp [this])
    (fun p x h => by simp [w.pool p x h]) w.nodup

theorem W.setDead (w : W s root G) (id : Nat) (x : LObj) (hg : G id = none)
    (hnp : ∀ p, id ∉ s.pool p) : W (s.setObj id x) root G :=
  w.transfer
    (fun i d h => by
      have : i ≠ id := ne_of_some_none h hg
      simp [h, this])
    (fun _ _ _ _ _ _ _ => rfl)
    (fun p i h => by
      have : i ≠ id := fun e => hnp p (e ▸ h)
      simpa [this] using w.pool p i h)
    w.nodup

theorem W.poolAdd (w : W s root G) (id : Nat) (o : LObj) (hg : G id = none)
    (ho : s.obj? id = some o) (hpo : PoolObj root o.path o) (hnp : ∀ p, id ∉ s.pool p) :
    W (s.setPool o.path (s.pool o.path ++ [id])) root G :=
  w.transfer (fun x _ h => Or.inl ⟨h, rfl⟩) (fun _ _ _ _ _ _ _ => rfl)
    (fun p i h => by
      by_cases e : p = o.path
      · subst e
        have h : i ∈ s.pool o.path ∨ i = id := by simpa using h
        rcases h with h | rfl
        · exact w.pool _ i h
        · exact ⟨hg, o, ho, hpo⟩
      · exact w.pool p i (by simpa [e] using h))
    (fun p => by
      by_cases e : p = o.path
      · simpa [e, List.nodup_append, w.nodup] using fun a ha e' => hnp _ (e' ▸ ha)
      · simpa [e] using w.nodup p)

theorem W.poolErase (w : W s root G) (p0 : List Nat) (id : Nat) :
    W (s.setPool p0 ((s.pool p0).erase id)) root G :=
  w.transfer (fun x _ h => Or.inl ⟨h, rfl⟩) (fun _ _ _ _ _ _ _ => rfl)
    (fun p i h => by
      by_cases e : p = p0
      · subst e; exact w.pool _ i (List.mem_of_mem_erase (by simpa using h))
      · exact w.pool p i (by simpa [e] using h))
    (fun p => by
      by_cases e : p = p0
      · simpa [e] using (w.nodup p0).erase id
      · simpa [e] using w.nodup p)

end forest

/-- `decodeWithPool` has recorded the fields of a message in object `nid`, which nobody owns yet -/
structure Filled (s : LState) (G : GMap) (pth : List Nat) (fds : List FD) (nid : Nat) (o : LObj) : Prop where
  dead : G nid = none
  unpooled : ∀ p, nid ∉ s.pool p
  obj : s.obj? nid = some o
  path : o.path = pth
  eq : FdsEq o.fds fds
  closers : o.closers = []
  opn : o.closed = false
  skip : pth = [] → o.skipClose = false

section leaves
variable {s : LState} {root : LDec} {G : GMap}

theorem W.addLeaf {pth fds nid o node} (w : W s root G) (f : Filled s G pth fds nid o) (b : Bytes) (gen : Nat)
    (hnode : decAt root pth = some node) (hdec : decodeInto node.flat (cleanFds node.flat.length) b = .ok fds)
    (hsk : o.skipClose = !pth.isEmpty) : W s root (G.set nid ⟨b, pth, gen⟩) :=
  w.transfer
    (fun x d h => by
      by_cases e : x = nid
      · obtain rfl : (⟨b, pth, gen⟩ : Ghost) = d := by simpa [e] using h
        exact Or.inr ⟨o, node, fds, e ▸ f.obj, f.closers,
          { hpath := f.path, hnode := hnode, hdec := hdec, eq := f.eq, opn := f.opn, skip := hsk,
            nodup := by simp [f.closers], kids := by simp [f.closers] }⟩
      · exact Or.inl ⟨by simpa [e] using h, rfl⟩)
    (fun x d o' hx ho c hc => by
      have : c ≠ nid := fun e => w.detached f.dead x d o' hx ho (e ▸ hc)
      simp [this])
    (fun p x h => by
      have : x ≠ nid := fun e => f.unpooled p (e ▸ h)
      simpa [this] using w.pool p x h)
    w.nodup

theorem W.adopt {id d o c dc} (w : W s root G) (hd : G id = some d) (ho : s.obj? id = some o)
    (hc : G c = some dc) (hgen : dc.gen = d.gen) (hlen : dc.path.length = d.path.length + 1) (hdet : Detached s G c) :
    W (s.setObj id { o with closers := o.closers ++ [c] }) root G := by
  -- a closer of a live object after the step is `c` itself, in the list of `id`, or was one before
  have hmem : ∀ i di oi', G i = some di → (s.setObj id { o with closers := o.closers ++ [c] }).obj? i = some oi' →
      ∀ x ∈ oi'.closers, (x = c ∧ i = id) ∨ ∃ oi, s.obj? i = some oi ∧ x ∈ oi.closers := by
    intro i di oi' _ hoi' x hx
    by_cases e : i = id
    · obtain rfl : { o with closers := o.closers ++ [c] } = oi' := by simpa [e] using hoi'
      rcases List.mem_append.mp hx with h | h
      · exact Or.inr ⟨o, e ▸ ho, h⟩
      · exact Or.inl ⟨List.mem_singleton.mp h, e⟩
    · exact Or.inr ⟨oi', by simpa [e] using hoi', hx⟩
  refine ⟨?_, ?_, ?_, w.nodup⟩
  · intro x dx hx
    obtain ⟨ox, node, fds, hox, l⟩ := w.live x dx hx
    by_cases e : x = id
    · subst e
      obtain rfl : d = dx := Option.some.inj (hd.symm.trans hx)
      obtain rfl : o = ox := Option.some.inj (ho.symm.trans hox)
      refine ⟨{ o with closers := o.closers ++ [c] }, node, fds, by simp, { l with nodup := ?_, kids := ?_ }⟩
      · simpa [List.nodup_append, l.nodup] using fun a ha (e : a = c) => hdet x d o hd ho (e ▸ ha)
      · intro x (hx : x ∈ o.closers ++ [c])
        rcases List.mem_append.mp hx with h | h
        · exact l.kids x h
        · exact List.mem_singleton.mp h ▸ ⟨dc, hc, hgen, hlen⟩
    · exact ⟨ox, node, fds, by simpa [e] using hox, l⟩
  · intro i1 i2 d1 d2 o1 o2 x a1 a2 h1 h2 m1 m2
    rcases hmem i1 d1 o1 a1 h1 x m1 with ⟨e1, i1id⟩ | ⟨p1, hp1, n1⟩
    · rcases hmem i2 d2 o2 a2 h2 x m2 with ⟨_, i2id⟩ | ⟨p2, hp2, n2⟩
      · rw [i1id, i2id]
      · exact absurd (e1 ▸ n2) (hdet i2 d2 p2 a2 hp2)
    · rcases hmem i2 d2 o2 a2 h2 x m2 with ⟨e2, _⟩ | ⟨p2, hp2, n2⟩
      · exact absurd (e2 ▸ n1) (hdet i1 d1 p1 a1 hp1)
      · exact w.forest i1 i2 d1 d2 p1 p2 x a1 a2 hp1 hp2 n1 n2
  · intro p x hm
    obtain ⟨hgx, ox, hox, hpo⟩ := w.pool p x hm
    have : x ≠ id := (ne_of_some_none hd hgx).symm
    exact ⟨hgx, ox, by simpa [this] using hox, hpo⟩

end leaves

/-- a closer that `close` may be called on: live, of generation `g`, at level `n + 1`, in no other closer list -/
def Kid (s : LState) (G : GMap) (g n c : Nat) : Prop :=
  ∃ dc, G c = some dc ∧ dc.gen = g ∧ dc.path.length = n + 1 ∧ Detached s G c

/-- `close` may be called on `id`: the object is not live (any more), in no pool, fit for its node's pool, and
    its closers are `Kid`s -/
structure Closable (s : LState) (root : LDec) (G : GMap) (id : Nat) (o : LObj) (g n : Nat) : Prop where
  dead : G id = none
  unpooled : ∀ p, id ∉ s.pool p
  obj : s.obj? id = some o
  node : ∃ node, decAt root o.path = some node ∧ o.fds.length = node.flat.length
  skip : o.path = [] → o.skipClose = false
  nodup : o.closers.Nodup
  kids : ∀ c ∈ o.closers, Kid s G g n c

/-- what a `close` has done: some objects of generation `g` below level `n` have left `G`; whatever is still
    live is as it was; an object satisfying `P` that was neither live nor pooled is as it was -/
structure Closed (P : Nat → Prop) (s s' : LState) (G G' : GMap) (g n : Nat) : Prop where
  keeps : ∀ x d, G' x = some d → G x = some d ∧ s'.obj? x = s.obj? x
  stay : ∀ x d, G x = some d → d.gen ≠ g ∨ d.path.length ≤ n → G' x = some d
  dead : ∀ x, P x → G x = none → (∀ p, x ∉ s.pool p) → s'.obj? x = s.obj? x ∧ ∀ p, x ∉ s'.pool p

theorem Closed.refl (P : Nat → Prop) (s : LState) (G : GMap) (g n : Nat) : Closed P s s G G g n :=
  ⟨fun _ _ h => ⟨h, rfl⟩, fun _ _ h _ => h, fun _ _ _ h => ⟨rfl, h⟩⟩

section close
variable {s s' : LState} {root : LDec} {G G' : GMap}

theorem Closed.gone {P g n} (c : Closed P s s' G G' g n) {x : Nat} (h : G x = none) : G' x = none := by
  cases h' : G' x with
  | none => rfl
  | some d => rw [(c.keeps x d h').1] at h; cases h

theorem Closed.trans {P s1 s2 s3 G1 G2 G3 g n} (a : Closed P s1 s2 G1 G2 g n) (b : Closed P s2 s3 G2 G3 g n) :
    Closed P s1 s3 G1 G3 g n where
  keeps := fun x d h => ⟨(a.keeps x d (b.keeps x d h).1).1, (b.keeps x d h).2.trans (a.keeps x d (b.keeps x d h).1).2⟩
  stay := fun x d h hd => b.stay x d (a.stay x d h hd) hd
  dead := fun x hp h hnp =>
    ⟨(b.dead x hp (a.gone h) (a.dead x hp h hnp).2).1.trans (a.dead x hp h hnp).1, (b.dead x hp (a.gone h) (a.dead x hp h hnp).2).2⟩

theorem Closed.imp {P Q : Nat → Prop} {s s' G G' g n} (c : Closed P s s' G G' g n) (h : ∀ x, Q x → P x) :
    Closed Q s s' G G' g n :=
  { c with dead := fun x hx => c.dead x (h x hx) }

theorem Closed.setDead (s : LState) {G : GMap} (g n : Nat) {id : Nat} (hg : G id = none) (x : LObj) :
    Closed (· ≠ id) s (s.setObj id x) G G g n where
  keeps := fun i d hi => ⟨hi, by
    have : i ≠ id := ne_of_some_none hi hg
    simp [this]⟩
  stay := fun _ _ h _ => h
  dead := fun i hi _ hnp => ⟨by simp [show i ≠ id from hi], hnp⟩

theorem Kid.mono {g n c : Nat} (k : Kid s G g n c)
    (hk : ∀ x d, G' x = some d → G x = some d ∧ s'.obj? x = s.obj? x) (hc : G' c = G c) : Kid s' G' g n c := by
  obtain ⟨dc, h1, h2, h3, h4⟩ := k
  exact ⟨dc, hc.trans h1, h2, h3, fun i d o hi ho => h4 i d o (hk i d hi).1 ((hk i d hi).2 ▸ ho)⟩

/-- a live object that is in no closer list may be forgotten; it is then ready to be closed -/
theorem W.kill {c dc oc} (w : W s root G) (hc : G c = some dc) (hoc : s.obj? c = some oc)
    (hdet : Detached s G c) : W s root (G.rem c) ∧ Closable s root (G.rem c) c oc dc.gen dc.path.length := by
  obtain ⟨oc', node, fds, hoc', l⟩ := w.live c dc hc
  obtain rfl : oc' = oc := Option.some.inj (hoc'.symm.trans hoc)
  refine ⟨w.rem c hdet, by simp, w.unpooled hc, hoc, ⟨node, l.hpath ▸ l.hnode, l.len⟩, ?_, l.nodup, ?_⟩
  · intro e; simpa [← l.hpath, e] using l.skip
  · intro c' hc'
    obtain ⟨dc', h1, h2, h3⟩ := l.kids c' hc'
    have hne : c' ≠ c := fun e => by rw [e, hc] at h1; cases h1; omega
    refine ⟨dc', by simpa [hne] using h1, h2, h3, ?_⟩
    intro i d o hi ho hm
    obtain ⟨hic, hi⟩ := GMap.rem_some hi
    exact hic (w.forest i c d dc o oc' c' hi hc ho hoc hm hc')

/-- the contract of one `close` call, as a property of the function used for the recursive calls.  The last clause
    (an object without closers releases nothing) is for the `Close` after a failed pass, in `decode_chosenN` -/
def CloseSpec (f : LState → Nat → LState) (root : LDec) : Prop :=
  ∀ (s : LState) (G : GMap) (id : Nat) (o : LObj) (g n : Nat), W s root G → Closable s root G id o g n →
    ∃ G', W (f s id) root G' ∧ Closed (· ≠ id) s (f s id) G G' g n ∧ (o.closers = [] → G' = G)

theorem fold_close {f : LState → Nat → LState} (hf : CloseSpec f root) (cs : List Nat) {g n : Nat} (w : W s root G)
    (hnd : cs.Nodup) (hk : ∀ c ∈ cs, Kid s G g n c) :
    ∃ G', W (cs.foldl f s) root G' ∧ Closed (fun _ => True) s (cs.foldl f s) G G' g n ∧ (cs = [] → G' = G) := by
  induction cs generalizing s G with
  | nil => exact ⟨G, w, Closed.refl _ s G g n, fun _ => rfl⟩
  | cons c rest ih =>
    obtain ⟨dc, hGc, hgen, hlen, hdet⟩ := hk c (by simp)
    obtain ⟨oc, _, _, hoc, _⟩ := w.live c dc hGc
    obtain ⟨w0, hcl⟩ := w.kill hGc hoc hdet
    rw [hgen, hlen] at hcl
    obtain ⟨G1, w1, c1, _⟩ := hf s (G.rem c) c oc g (n + 1) w0 hcl
    -- seen from `G`, where `c` was live
    have c1' : Closed (fun _ => True) s (f s c) G G1 g n :=
      { keeps := fun x d hx => ⟨(GMap.rem_some (c1.keeps x d hx).1).2, (c1.keeps x d hx).2⟩
        stay := fun x d hx hd => by
          have : x ≠ c := fun e => by
            obtain rfl : dc = d := Option.some.inj (hGc.symm.trans (e ▸ hx))
            omega
          exact c1.stay x d (by simpa [this] using hx) (hd.imp id Nat.le_succ_of_le)
        dead := fun x _ hx hnp => c1.dead x (ne_of_some_none hGc hx).symm (by simp [hx]) hnp }
    -- the other closers are still live (they sit at level `n + 1`) and in no closer list
    have hk' : ∀ c' ∈ rest, Kid (f s c) G1 g n c' := by
      intro c' hc'
      have k := hk c' (by simp [hc'])
      obtain ⟨dc', h1, _, h3, _⟩ := id k
      have hne : c' ≠ c := fun e => (List.nodup_cons.mp hnd).1 (e ▸ hc')
      exact k.mono c1'.keeps ((c1.stay c' dc' (by simpa [hne] using h1) (Or.inr (by omega))).trans h1.symm)
    obtain ⟨G2, w2, c2, _⟩ := ih w1 (List.nodup_cons.mp hnd).2 hk'
    exact ⟨G2, w2, c1'.trans c2, fun e => by cases e⟩

theorem Kid.setDead {g n c : Nat} (k : Kid s G g n c) {id : Nat} (hg : G id = none) (x : LObj) :
    Kid (s.setObj id x) G g n c :=
  k.mono (Closed.setDead s g n hg x).keeps rfl

/-- **`(*DecodeResult).close` reaches only nested results below the one it is called on**: it keeps `W`; what
    leaves `G` is of generation `g` and deeper than level `n` (the closers are at level `n + 1`); whatever stays
    live, and every other object that is neither live nor pooled, is as it was.  At fuel 0 nothing is released. -/
theorem closeObj_spec (root : LDec) : ∀ (fuel : Nat), CloseSpec (closeObj fuel) root
  | 0 => fun s G _ _ g n w _ => ⟨G, w, Closed.refl _ s G g n, fun _ => rfl⟩
  | fuel + 1 => by
    intro s G id o g n w hc
    rw [closeObj_succ fuel s id o hc.obj]
    obtain ⟨G2, w2, c2, hnil⟩ := fold_close (closeObj_spec root fuel) o.closers
      (w.setDead id (clearObj o) hc.dead hc.unpooled) hc.nodup (fun c h => (hc.kids c h).setDead hc.dead _)
    -- closing the closers has left `id` itself alone: dead, cleared, in no pool
    obtain ⟨ho2, hnp2⟩ := c2.dead id trivial hc.dead hc.unpooled
    have c02 := (Closed.setDead s g n hc.dead (clearObj o)).trans (c2.imp fun _ _ => trivial)
    dsimp only
    split
    · obtain ⟨node, h1, h2⟩ := hc.node
      refine ⟨G2, w2.poolAdd id (clearObj o) (c2.gone hc.dead) (by simpa using ho2)
        ⟨clearObj_cleared o, rfl, ⟨node, h1, by simp [clearObj, h2]⟩, hc.skip⟩ hnp2, ?_, hnil⟩
      refine { c02 with dead := fun x hx hg hnp => ?_ }
      obtain ⟨h1, h2⟩ := c02.dead x hx hg hnp
      refine ⟨h1, fun p hm => h2 p ?_⟩
      by_cases e : p = o.path
      · simpa [e, show x ≠ id from hx] using hm
      · simpa [e] using hm
    · exact ⟨G2, w2, c02, hnil⟩

end close

/-- what `close` leaves alone -/
structure Misc (s s' : LState) : Prop where
  root : s'.root = s.root
  handles : ∀ h, s'.handle? h = s.handle? h
  anon : s'.anon = s.anon
  rootPooled : s'.rootPooled = s.rootPooled
  none : ∀ x, s.obj? x = none → s'.obj? x = none
  flags : ∀ x o, s.obj? x = some o → ∃ o', s'.obj? x = some o' ∧ o'.closed = o.closed ∧ o'.skipClose = o.skipClose

theorem Misc.refl (s : LState) : Misc s s := ⟨rfl, fun _ => rfl, rfl, rfl, fun _ h => h, fun _ o h => ⟨o, h, rfl, rfl⟩⟩

theorem Misc.trans {a b c : LState} (h1 : Misc a b) (h2 : Misc b c) : Misc a c where
  root := h2.root.trans h1.root
  handles := fun h => (h2.handles h).trans (h1.handles h)
  anon := h2.anon.trans h1.anon
  rootPooled := h2.rootPooled.trans h1.rootPooled
  none := fun x h => h2.none x (h1.none x h)
  flags := by
    intro x o h
    obtain ⟨o1, a1, a2, a3⟩ := h1.flags x o h
    obtain ⟨o2, b1, b2, b3⟩ := h2.flags x o1 a1
    exact ⟨o2, b1, b2.trans a2, b3.trans a3⟩

theorem misc_setObj (s : LState) (id : Nat) (o o' : LObj) (ho : s.obj? id = some o) (h1 : o'.closed = o.closed)
    (h2 : o'.skipClose = o.skipClose) : Misc s (s.setObj id o') where
  root := rfl
  handles := fun _ => rfl
  anon := rfl
  rootPooled := rfl
  none := fun x hx => by
    have : x ≠ id := (ne_of_some_none ho hx).symm
    simp [this, hx]
  flags := fun x ox hx => by
    by_cases e : x = id
    · obtain rfl : o = ox := Option.some.inj (ho.symm.trans (e ▸ hx))
      exact ⟨o', by simp [e], h1, h2⟩
    · exact ⟨ox, by simp [e, hx], rfl, rfl⟩

theorem misc_setPool (s : LState) (p ids) : Misc s (s.setPool p ids) :=
  ⟨rfl, fun _ => rfl, rfl, rfl, fun _ h => h, fun _ o h => ⟨o, h, rfl, rfl⟩⟩

theorem closeObj_misc : ∀ (fuel : Nat) (s : LState) (id : Nat), Misc s (closeObj fuel s id) :=
  closeObj_rel Misc Misc.refl Misc.trans (fun s id o ho => misc_setObj s id o (clearObj o) ho rfl rfl)
    fun _ _ _ s2 _ => misc_setPool s2 _ _

theorem closeRes_skip (s : LState) (id : Nat) (o : LObj) (ho : s.obj? id = some o) (h : o.skipClose = true ∨ o.closed = true) :
    closeRes s id = s := by
  unfold closeRes; simp only [ho]; rw [if_pos h]

theorem closeRes_open (s : LState) (id : Nat) (o : LObj) (ho : s.obj? id = some o) (h1 : o.skipClose = false)
    (h2 : o.closed = false) :
    closeRes s id = closeObj (s.objs.length + 1) (s.setObj id { o with closed := true }) id := by
  unfold closeRes; simp only [ho]; rw [if_neg (by simp [h1, h2])]

/-- `Close` on an open result that is its own master (`skipClose` unset) is `close` after marking it closed -/
theorem closeRes_spec {s : LState} {root : LDec} {G : GMap} {id o g n} (w : W s root G) (hc : Closable s root G id o g n) (hsk : o.skipClose = false)
    (hop : o.closed = false) :
    ∃ G', W (closeRes s id) root G' ∧ Closed (· ≠ id) s (closeRes s id) G G' g n ∧ (o.closers = [] → G' = G) := by
  rw [closeRes_open s id o hc.obj hsk hop]
  obtain ⟨G', w', c', hnil⟩ := closeObj_spec root (s.objs.length + 1) (s.setObj id { o with closed := true }) G id
    { o with closed := true } g n (w.setDead id _ hc.dead hc.unpooled)
    { hc with unpooled := hc.unpooled, obj := by simp, kids := fun c h => (hc.kids c h).setDead hc.dead _ }
  exact ⟨G', w', (Closed.setDead s g n hc.dead _).trans c', hnil⟩

/-- a choice the pool of node `pth` can make -/
def ChoiceIn (s : LState) (pth : List Nat) : Choice → Prop
  | .new id => s.obj? id = none
  | .reuse id => id ∈ s.pool pth

theorem choiceIn_root {s : LState} {c : Choice} : ChoiceIn s [] c ↔ ChoiceOK s c := by
  cases c <;> exact Iff.rfl

/-- what a step leaves alone, except that it may create the object named by a `.new` choice -/
structure Frame (s s' : LState) (c : Choice) : Prop where
  root : s'.root = s.root
  handles : ∀ h, s'.handle? h = s.handle? h
  anon : s'.anon = s.anon
  rootPooled : s'.rootPooled = s.rootPooled
  born : ∀ x, s.obj? x = none → c ≠ .new x → s'.obj? x = none

theorem Frame.refl (s : LState) (c : Choice) : Frame s s c := ⟨rfl, fun _ => rfl, rfl, rfl, fun _ h _ => h⟩

theorem Frame.trans {a b c : LState} {ch : Choice} (h1 : Frame a b ch) (h2 : Frame b c ch) : Frame a c ch :=
  ⟨h2.root.trans h1.root, fun h => (h2.handles h).trans (h1.handles h), h2.anon.trans h1.anon,
    h2.rootPooled.trans h1.rootPooled, fun x hx hc => h2.born x (h1.born x hx hc) hc⟩

theorem Misc.frame {s s' : LState} (m : Misc s s') (c : Choice) : Frame s s' c :=
  ⟨m.root, m.handles, m.anon, m.rootPooled, fun x hx _ => m.none x hx⟩

theorem frame_setObj (s : LState) (nid : Nat) (x : LObj) (c : Choice) (hcn : ∀ y, s.obj? y = none → c ≠ .new y → y ≠ nid) :
    Frame s (s.setObj nid x) c :=
  ⟨rfl, fun _ => rfl, rfl, rfl, fun y hy hc => by simp [hcn y hy hc, hy]⟩

theorem closeRes_frame (s : LState) (id : Nat) (c : Choice) : Frame s (closeRes s id) c := by
  unfold closeRes
  cases ho : s.obj? id with
  | none => exact Frame.refl s c
  | some o =>
    dsimp only
    split
    · exact Frame.refl s c
    · exact (frame_setObj s id _ c fun y hy _ => (ne_of_some_none ho hy).symm).trans ((closeObj_misc _ _ _).frame c)

/-- `decodeWithPool` once the pool has handed out the object `o` under the id `nid` -/
def fill (s1 : LState) (nid : Nat) (o : LObj) (node : LDec) (b : Bytes) : LState × DecodeOut :=
  match decodeInto node.flat o.fds b with
  | .ok fds => (s1.setObj nid { o with closed := false, fds := fds }, .res nid)
  | .err => (closeRes (s1.setObj nid { o with closed := false }) nid, .err)
  | .panic => (s1, .panic)

/-- what `decodeWithPool` on the node `pth` owes, in terms of what a brand-new object records of `b` -/
def DecodeSpec (s : LState) (root : LDec) (G : GMap) (pth : List Nat) (node : LDec) (b : Bytes) (c : Choice)
    (res : LState × DecodeOut) : Prop :=
  match decodeInto node.flat (cleanFds node.flat.length) b with
  | .ok fds => ∃ s' nid o', res = (s', .res nid) ∧ Frame s s' c ∧ W s' root G ∧ Filled s' G pth fds nid o'
  | .err => ∃ s', res = (s', .err) ∧ Frame s s' c ∧ W s' root G
  | .panic => False

theorem decode_chosenN {s s1 : LState} {root : LDec} {G : GMap} {pth : List Nat} {node : LDec} {nid : Nat} {o : LObj}
    {c : Choice} (b : Bytes) (fr : Frame s s1 c) (hcn : ∀ y, s1.obj? y = none → c ≠ .new y → y ≠ nid)
    (w1 : W s1 root G) (hg : G nid = none) (hnp : ∀ p, nid ∉ s1.pool p) (hpo : PoolObj root pth o)
    (hnode : decAt root pth = some node) : DecodeSpec s root G pth node b c (fill s1 nid o node b) := by
  unfold DecodeSpec fill
  obtain ⟨hcl, hp, ⟨node', hn', hlen⟩, hsk⟩ := hpo
  obtain rfl : node = node' := Option.some.inj (hnode.symm.trans hn')
  have hrel := reuse_eq_new node o b hcl hlen
  have wA : ∀ x, W (s1.setObj nid x) root G := fun x => w1.setDead nid x hg hnp
  cases hy : decodeInto node.flat (cleanFds node.flat.length) b with
  | panic => exact (clean_total node b).1 hy
  | ok ys =>
    cases hx : decodeInto node.flat o.fds b with
    | ok xs =>
      rw [hx, hy] at hrel
      exact ⟨_, nid, { o with closed := false, fds := xs }, rfl, fr.trans (frame_setObj s1 nid _ c hcn), wA _,
        ⟨hg, hnp, by simp, hp, hrel, hcl.2, rfl, hsk⟩⟩
    | err => rw [hx, hy] at hrel; exact hrel.elim
    | panic => rw [hx, hy] at hrel; exact hrel.elim
  | err =>
    cases hx : decodeInto node.flat o.fds b with
    | ok xs => rw [hx, hy] at hrel; exact hrel.elim
    | panic => rw [hx, hy] at hrel; exact hrel.elim
    | err =>
      -- the failed pass is undone by `Close`: nothing for a nested object (`skipClose`), else back to the pool
      have hoA : (s1.setObj nid { o with closed := false }).obj? nid = some { o with closed := false } := by simp
      refine ⟨_, rfl, (fr.trans (frame_setObj s1 nid _ c hcn)).trans (closeRes_frame _ nid c), ?_⟩
      by_cases hs : o.skipClose = true
      · rw [closeRes_skip _ nid _ hoA (Or.inl hs)]
        exact wA _
      · obtain ⟨G', w', _, hG'⟩ := closeRes_spec (g := 0) (n := 0) (wA _)
          ⟨hg, hnp, hoA, ⟨node, hp ▸ hnode, hlen⟩, fun e => hsk (hp ▸ e), by simp [hcl.2], by simp [hcl.2]⟩
          (by simpa using hs) rfl
        exact hG' hcl.2 ▸ w'

theorem decodeAt {s : LState} {root : LDec} {G : GMap} {pth : List Nat} {node : LDec} {b : Bytes} {c : Choice} (hroot : s.root = root) (w : W s root G)
    (hnode : decAt root pth = some node) (hne : b.isEmpty = false) (hc : ChoiceIn s pth c) :
    DecodeSpec s root G pth node b c (decodeWithPool s pth b c) := by
  cases c with
  | new id =>
    have hfresh : s.obj? id = none := hc
    have hg : G id = none := by
      cases h : G id with
      | none => rfl
      | some d => obtain ⟨o, _, _, h1, _⟩ := w.live id d h; rw [hfresh] at h1; cases h1
    have hnp : ∀ p, id ∉ s.pool p := fun p hm => by
      obtain ⟨_, o, h1, _⟩ := w.pool p id hm
      rw [hfresh] at h1; cases h1
    have e : decodeWithPool s pth b (.new id) = fill s id
        { path := pth, fds := cleanFds node.flat.length, closers := [], skipClose := false, closed := false } node b := by
      simp only [decodeWithPool, hne, Bool.false_eq_true, if_false, hroot, hnode]; rfl
    exact e ▸ decode_chosenN b (Frame.refl s (.new id)) (fun y _ hy e => hy (e ▸ rfl)) w hg hnp
      ⟨⟨by simp [cleanFds], rfl⟩, rfl, ⟨node, hnode, by simp [cleanFds]⟩, fun _ => rfl⟩ hnode
  | reuse id =>
    have hin : id ∈ s.pool pth := hc
    obtain ⟨hg, o, ho, hpo⟩ := w.pool pth id hin
    have hnp : ∀ p, id ∉ (s.setPool pth ((s.pool pth).erase id)).pool p := by
      intro p hm
      by_cases e : p = pth
      · exact (((w.nodup pth).mem_erase_iff).mp (by simpa [e] using hm)).1 rfl
      · obtain ⟨_, o2, ho2, hpo2⟩ := w.pool p id (by simpa [e] using hm)
        obtain rfl : o = o2 := Option.some.inj (ho.symm.trans ho2)
        exact e (hpo2.2.1.symm.trans hpo.2.1)
    have e : decodeWithPool s pth b (.reuse id) = fill (s.setPool pth ((s.pool pth).erase id)) id o node b := by
      simp only [decodeWithPool, hne, Bool.false_eq_true, if_false, hroot, hnode,
        show (s.pool pth).contains id = true by simpa using hin, if_true, ho, Option.map_some]; rfl
    exact e ▸ decode_chosenN b ⟨rfl, fun _ => rfl, rfl, rfl, fun _ h _ => h⟩
      (fun y hy _ e => by rw [e] at hy; cases hy.symm.trans ho) (w.poolErase pth id) hg hnp hpo hnode

/-- the invariant after a successful attach: the new object is marked `skipClose`, becomes a leaf of the forest,
    and is adopted by `id` -/
theorem W.attach {s1 : LState} {root : LDec} {G : GMap} {id nid t : Nat} {d : Ghost} {sub : LDec} {fds' : List FD}
    {o1 no : LObj} (w1 : W s1 root G) (b : Bytes) (hd : G id = some d) (ho1 : s1.obj? id = some o1)
    (f : Filled s1 G (d.path ++ [t]) fds' nid no) (hsub : decAt root (d.path ++ [t]) = some sub)
    (hdec : decodeInto sub.flat (cleanFds sub.flat.length) b = .ok fds') :
    W ((s1.setObj nid { no with skipClose := true }).setObj id { o1 with closers := o1.closers ++ [nid] }) root
      (G.set nid ⟨b, d.path ++ [t], d.gen⟩) := by
  have hne : id ≠ nid := ne_of_some_none hd f.dead
  have wB := (w1.setDead nid { no with skipClose := true } f.dead f.unpooled).addLeaf
    (pth := d.path ++ [t]) (fds := fds') (o := { no with skipClose := true })
    { f with unpooled := f.unpooled, obj := by simp, skip := by simp } b d.gen hsub hdec (by simp)
  refine wB.adopt (d := d) (dc := ⟨b, d.path ++ [t], d.gen⟩) (by simpa [hne] using hd) (by simpa [hne] using ho1)
    (by simp) rfl (by simp) ?_
  -- nobody has the new object as a closer: it was dead, and its own list is empty
  intro i di oi hi hoi hm
  by_cases e : i = nid
  · obtain rfl : { no with skipClose := true } = oi := by simpa [e] using hoi
    simp [f.closers] at hm
  · exact w1.detached f.dead i di oi (by simpa [e] using hi) (by simpa [e] using hoi) hm

end Csproto.C14N
