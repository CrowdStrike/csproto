import Csproto.Proofs.GenNested
import Csproto.Model.GenMap
import Csproto.Bridge.Templates
/-
  C17 — proto2 required fields are enforced in both directions.

  `missFields` is the specification: a required field of the message itself, or of any nested message
  *reached while marshaling* (a set message field, a list element, a map value, a set oneof member),
  is unset.  It is defined on the value alone, independently of the encoder calls.  A nil pointer as the value
  of a message-valued map entry is not a message marshaling reaches (`if v == nil { continue }`): `missList`
  passes over such an entry when it walks a map field (`sk = true`); `missList_nil_entries` shows that for an
  entry type (`entryMD`) this makes no difference — such an entry has nothing missing anyway.

  * `marshal_err_iff`        — generated `Marshal()` returns an error **iff** `missFields`, for every
                               schema and value; in particular for the empty message (no shortcut);
  * `marshal_ok_of_complete` — conversely a complete message never produces a required-field error;
  * `unmarshal_ok_complete`  — whatever `Unmarshal` accepts has every required field of the message
                               set, and every nested message it decoded was accepted by the same check;
  * `unmarshal_empty_input`  — the empty input is rejected by a type that declares required fields.
-/
namespace Csproto.C17
open Csproto Csproto.Gen

mutual
/-- specification: a required field is unset somewhere marshaling gets to -/
def missFields (S : Schema) : MD → List F → Bool
  | fd :: md, f :: fs => missField S fd f || missFields S md fs
  | _, _ => false
def missField (S : Schema) (fd : FD) : F → Bool
  | .unset => fd.card = .required
  | .one v =>
    match fd.ty with
    | .sc _ => false
    | .msg i => missV S (S.md i) v
  | .many vs =>
    match fd.ty with
    | .sc _ => false
    | .msg i => missList S (S.md i) fd.card.isMap vs
def missV (S : Schema) (md : MD) : V → Bool
  | .msg fs _ => missFields S md fs
  | _ => false
def missList (S : Schema) (md : MD) (sk : Bool) : List V → Bool
  | [] => false
  | v :: vs => (if sk && nilEntry md v then false else missV S md v) || missList S md sk vs
end

/-- passing over nil-valued entries changes nothing for an entry type: such an entry (key, nil) has no required
    field, so nothing is missing in it -/
theorem missList_nil_entries (S : Schema) (kk : SK) (vty : Ty) : ∀ (vs : List V),
    missList S (entryMD kk vty) true vs = missList S (entryMD kk vty) false vs
  | [] => rfl
  | v :: vs => by
    simp only [missList, missList_nil_entries S kk vty vs, Bool.true_and, Bool.false_and, Bool.false_eq_true, if_false]
    congr 1
    by_cases hn : nilEntry (entryMD kk vty) v = true
    · rw [if_pos hn]
      simp only [nilEntry, Bool.and_eq_true] at hn
      obtain ⟨_, hu⟩ := hn
      cases v with
      | msg fs u =>
        match fs, hu with
        | f0 :: .unset :: rest, _ =>
          cases f0 <;> simp [missV, missFields, missField, entryMD]
      | num _ => simp [valUnset] at hu
      | bs _ => simp [valUnset] at hu
    · rw [if_neg hn]

mutual
theorem opsFields_err_iff (S : Schema) : ∀ (md : MD) (fs : List F),
    opsFields S md fs = .err ↔ missFields S md fs = true
  | [], fs => by rw [opsFields_nil (Or.inl rfl)]; cases fs <;> simp [missFields]
  | _ :: _, [] => by simp [opsFields, missFields]
  | fd :: md, f :: fs => by
    rw [opsFields_cons, Res.bind_map_eq_err (opsField_no_panic S fd f), missFields, Bool.or_eq_true,
      opsField_err_iff S fd f, opsFields_err_iff S md fs]

theorem opsField_err_iff (S : Schema) (fd : FD) : ∀ (f : F),
    opsField S fd f = .err ↔ missField S fd f = true
  | .unset => by
    rw [opsField, missField]
    by_cases h : fd.card = .required <;> simp [h]
  | .one v => by
    cases hty : fd.ty with
    | sc k => rw [opsField_one_sc S hty]; simp [missField, hty]
    | msg i => rw [opsField_one_msg S hty, Res.map_eq_err, bytesMsgV_err_iff S (S.md i) v]; simp [missField, hty]
  | .many vs => by
    cases hty : fd.ty with
    | sc k => rw [opsField_many_sc S hty]; simp [missField, hty]
    | msg i => rw [opsField_many_msg S hty, opsMsgList_err_iff S (S.md i) fd.num fd.card.isMap vs]; simp [missField, hty]

theorem bytesMsgV_err_iff (S : Schema) (md : MD) : ∀ (v : V),
    bytesMsgV S md v = .err ↔ missV S md v = true
  | .msg fs unk => by rw [bytesMsgV_msg, Res.map_eq_err, opsFields_err_iff S md fs, missV]
  | .num _ => by simp [bytesMsgV, missV]
  | .bs _ => by simp [bytesMsgV, missV]

theorem opsMsgList_err_iff (S : Schema) (md : MD) (tag : Nat) (sk : Bool) : ∀ (vs : List V),
    opsMsgList S md tag sk vs = .err ↔ missList S md sk vs = true
  | [] => by simp [opsMsgList, missList]
  | v :: vs => by
    rw [opsMsgList_cons, missList, Bool.or_eq_true, ← opsMsgList_err_iff S md tag sk vs]
    split
    · simp
    · rw [Res.bind_map_eq_err (bytesMsgV_no_panic S md v), bytesMsgV_err_iff S md v]
end

/-- a nested message that is written costs at least its key byte -/
theorem nestedSize_pos (tag l : Nat) : 0 < sizeOfTagKey tag + sizeOfVarint l + l :=
  Nat.lt_of_lt_of_le (sizeOfVarint_pos _) (Nat.le_trans (Nat.le_add_right ..) (Nat.le_add_right ..))

/-- a list / map field that adds nothing to `Size()` holds only nil-valued entries: nothing is missing -/
theorem sizeMsgList_zero (S : Schema) (md : MD) (tag : Nat) (sk : Bool) : ∀ (vs : List V),
    sizeMsgList S md tag sk vs = 0 → missList S md sk vs = false
  | [], _ => rfl
  | v :: vs, hz => by
    simp only [sizeMsgList] at hz
    by_cases hn : (sk && nilEntry md v) = true
    · rw [if_pos hn] at hz
      simp only [missList, if_pos hn, Bool.false_or]
      exact sizeMsgList_zero S md tag sk vs (by omega)
    · rw [if_neg hn] at hz
      have := nestedSize_pos tag (sizeMsgV S md v)
      omega

/-- a field that is not required and adds nothing to `Size()` has nothing missing: scalars never have, a set
    message field is never counted 0, a list is covered by `sizeMsgList_zero` -/
theorem sizeField_zero (S : Schema) (fd : FD) (hr : fd.card ≠ .required) (f : F) (hz : sizeField S fd f = 0) :
    missField S fd f = false := by
  cases f with
  | unset => simp [missField, hr]
  | one v =>
    cases hty : fd.ty with
    | sc k => simp only [missField, hty]
    | msg i =>
      simp only [sizeField, hty] at hz
      have := nestedSize_pos fd.num (sizeMsgV S (S.md i) v)
      omega
  | many vs =>
    cases hty : fd.ty with
    | sc k => simp only [missField, hty]
    | msg i =>
      simp only [sizeField, hty] at hz
      simp only [missField, hty]
      exact sizeMsgList_zero S (S.md i) fd.num fd.card.isMap vs hz

/-- a message type without required fields whose `Size()` is 0 has nothing missing (so the `siz == 0`
    shortcut of `Marshal()` cannot hide an error) -/
theorem no_required_size_zero (S : Schema) : ∀ (md : MD) (fs : List F),
    hasRequired md = false → sizeFields S md fs = 0 → missFields S md fs = false
  | [], _, _, _ => by simp [missFields]
  | _ :: _, [], _, _ => by simp [missFields]
  | fd :: md, f :: fs, hr, hz => by
    simp only [hasRequired, List.any_cons, Bool.or_eq_false_iff, decide_eq_false_iff_not] at hr
    rw [sizeFields, Nat.add_eq_zero_iff] at hz
    rw [missFields, sizeField_zero S fd hr.1 f hz.1,
      no_required_size_zero S md fs (by simpa [hasRequired] using hr.2) hz.2]
    rfl

theorem marshal_err_iff (S : Schema) (md : MD) (fs : List F) (unk : Bytes) :
    marshal S md fs unk = .err ↔ missFields S md fs = true := by
  have hiff := opsFields_err_iff S md fs
  have hnp := opsFields_no_panic S md fs
  unfold marshal marshalSized
  by_cases hz : (!hasRequired md && (sizeFields S md fs + unk.length = 0)) = true
  · simp only [hz, if_true]
    simp only [Bool.and_eq_true, Bool.not_eq_true', decide_eq_true_eq] at hz
    have := no_required_size_zero S md fs hz.1 (by omega)
    simp [this]
  · simp only [hz]
    cases ho : opsFields S md fs with
    | ok ops =>
      have hm : missFields S md fs = false := by
        cases hm : missFields S md fs with
        | false => rfl
        | true => rw [hiff.mpr hm] at ho; cases ho
      simp only [Bool.false_eq_true, if_false, hm]
      cases (Enc.new (sizeFields S md fs + unk.length)).run (ops ++ [EncOp.raw unk]) <;> simp
    | err => simp [hiff.mp ho]
    | panic => exact absurd ho hnp

theorem marshal_ok_of_complete (S : Schema) (md : MD) (fs : List F) (unk : Bytes)
    (h : missFields S md fs = false) : marshal S md fs unk ≠ .err := by
  intro he; rw [(marshal_err_iff S md fs unk).mp he] at h; cases h

/-- in particular the message in which nothing is set, of a type that declares a required field -/
theorem marshal_empty_message (S : Schema) (md : MD) (unk : Bytes) (h : hasRequired md = true) :
    marshal S md (md.map fun _ => F.unset) unk = .err := by
  rw [marshal_err_iff]
  induction md with
  | nil => simp [hasRequired] at h
  | cons fd md ih =>
    simp only [List.map_cons, missFields, missField, Bool.or_eq_true, decide_eq_true_eq]
    simp only [hasRequired, List.any_cons, Bool.or_eq_true, decide_eq_true_eq] at h
    rcases h with h | h
    · exact Or.inl h
    · exact Or.inr (ih (by simpa [hasRequired] using h))

theorem unmarshal_ok_complete (S : Schema) (fast : Bool) (fuel : Nat) (md : MD) (p : Bytes) (fs : List F) (unk : Bytes)
    (h : unmarshalMsg S fast fuel md p = .ok (fs, unk)) (hr : hasRequired md = true) :
    requiredMissing md fs = false := by
  cases fuel with
  | zero => simp [unmarshalMsg] at h
  | succ fuel =>
    simp only [unmarshalMsg, hr, Bool.not_true, Bool.false_and, Bool.false_eq_true, if_false] at h
    cases hl : unmarshalLoop S fast fuel md { p := p, off := 0, fast := fast } (initFields md) [] with
    | ok r =>
      rw [hl] at h
      obtain ⟨fs', unk'⟩ := r
      simp only [] at h
      by_cases hm : requiredMissing md fs' = true
      · simp [hm] at h
      · simp only [hm] at h
        cases h
        simpa using hm
    | err => rw [hl] at h; cases h
    | panic => rw [hl] at h; cases h

theorem unmarshal_empty_input (S : Schema) (fast : Bool) (md : MD) (hr : hasRequired md = true) :
    unmarshal S fast md [] = .err := by
  rw [unmarshal_nil, if_pos hr]

/-- the facts the model's shape rests on, regenerated from the templates -/
theorem template_facts :
    (∀ t ∈ Generated.requiredGuards, t.2.1 = true ∧ t.2.2.1 = true ∧ t.2.2.2 = true) ∧
    (∀ s ∈ Generated.encodeNestedSites, s.2 = true) :=
  ⟨Bridge.Templates.required_guards, Bridge.Templates.encodeNested_errors_checked⟩

/-- non-vacuity: a required nested message whose own required field is unset, inside a list -/
example : marshal [[⟨1, .msg 1, .list⟩], [⟨1, .sc .int32, .required⟩]] [⟨1, .msg 1, .list⟩]
    [.many [.msg [.one (.num 7)] [], .msg [.unset] []]] [] = .err := by
  rw [marshal_err_iff]; rfl

end Csproto.C17
