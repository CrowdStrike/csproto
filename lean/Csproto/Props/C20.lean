import Csproto.Model.Hex
import Csproto.Model.Dump
import Csproto.Props.C03
import Csproto.Proofs.Dec
import Csproto.Proofs.Records
/-
  C20 — Diagnostic tooling: annotated hex and protodump are faithful.
-/
namespace Csproto.C20
open Csproto

/-- annotated hex read character by character, independently of the line-based procedure:
    `significant inComment text` = the characters that lie outside comments and are not whitespace,
    read by a one-pass state machine (a ';' opens a comment, a line feed closes it) -/
def significant : Bool → List Char → List Char
  | _, [] => []
  | inC, c :: r =>
    if c = '\n' then significant false r
    else if inC then significant true r
    else if c = ';' then significant true r
    else if isSpaceRune c then significant false r
    else c :: significant false r

theorem splitLines_ne_nil (x : List Char) : splitLines x ≠ [] := by
  cases x with
  | nil => simp [splitLines]
  | cons c cs =>
    simp only [splitLines]
    split
    · simp
    · split <;> simp

theorem nl_is_space : isSpaceRune '\n' = true := by decide

/-- the line-based procedure and the character-level reading see the same significant characters -/
theorem significant_lines (x : List Char) :
    ∀ l ls, splitLines x = l :: ls →
      significant false x = sigLine l ++ (ls.map sigLine).flatten ∧
      significant true x = (ls.map sigLine).flatten := by
  induction x with
  | nil => intro l ls h; simp [splitLines] at h; obtain ⟨h1, h2⟩ := h; subst h1; subst h2; simp [significant, sigLine, cutComment]
  | cons c cs ih =>
    intro l ls h
    simp only [splitLines] at h
    by_cases hc : c = '\n'
    · simp only [hc, if_true] at h
      obtain ⟨h1, h2⟩ := List.cons.inj h
      subst h1
      obtain ⟨l', ls', hs⟩ := List.exists_cons_of_ne_nil (splitLines_ne_nil cs)
      have := ih l' ls' hs
      rw [hs] at h2; subst h2
      simp [significant, hc, sigLine, cutComment, this.1]
    · simp only [hc, if_false] at h
      obtain ⟨l', ls', hs⟩ := List.exists_cons_of_ne_nil (splitLines_ne_nil cs)
      rw [hs] at h
      simp only at h
      obtain ⟨h1, h2⟩ := List.cons.inj h
      subst h1; subst h2
      have := ih l' ls' hs
      constructor
      · by_cases hsemi : c = ';'
        · simp [significant, hsemi, sigLine, cutComment, this.2]
        · by_cases hsp : isSpaceRune c
          · simp [significant, hc, hsemi, hsp, sigLine, cutComment, this.1]
          · simp [significant, hc, hsemi, hsp, sigLine, cutComment, this.1]
      · simp [significant, hc, this.2]

theorem significant_eq_flatten (x : List Char) :
    significant false x = ((splitLines x).map sigLine).flatten := by
  obtain ⟨l, ls, hs⟩ := List.exists_cons_of_ne_nil (splitLines_ne_nil x)
  rw [hs, (significant_lines x l ls hs).1]; simp

theorem decodeHex_append : ∀ (a : List Char) (x : Bytes) (b : List Char), decodeHex a = some x →
    decodeHex (a ++ b) = (decodeHex b).map (x ++ ·)
  | [], x, b, h => by simp [decodeHex] at h; subst h; simp
  | [_], x, b, h => by simp [decodeHex] at h
  | c1 :: c2 :: rest, x, b, h => by
    simp only [decodeHex] at h
    cases h1 : hexDigitVal c1 <;> cases h2 : hexDigitVal c2 <;> cases h3 : decodeHex rest <;> simp [h1, h2, h3] at h
    subst h
    have := decodeHex_append rest _ b h3
    simp only [List.cons_append, decodeHex, h1, h2, this]
    cases decodeHex b <;> simp

/-- the line-by-line procedure in one equation: the digits of all lines decoded together, provided every line
    carries a whole number of bytes (`hex.DecodeString` is called per line) -/
theorem parseLines_eq : ∀ ls : List (List Char),
    parseLines ls =
      if ∀ l ∈ ls, (decodeHex (sigLine l)).isSome then decodeHex ((ls.map sigLine).flatten) else none
  | [] => by simp [parseLines, decodeHex]
  | l :: ls => by
    simp only [parseLines, List.map_cons, List.flatten_cons, List.forall_mem_cons, parseLines_eq ls]
    by_cases he : (sigLine l).isEmpty
    · have : sigLine l = [] := by simpa using he
      simp [this, decodeHex]
    · cases h1 : decodeHex (sigLine l) with
      | none => simp [he]
      | some b1 =>
        rw [decodeHex_append _ b1 _ h1]
        by_cases hall : ∀ l ∈ ls, (decodeHex (sigLine l)).isSome
        · have hc : (some b1).isSome = true ∧ ∀ l ∈ ls, (decodeHex (sigLine l)).isSome := ⟨rfl, hall⟩
          rw [if_pos hall, if_pos hc]
          cases decodeHex ((ls.map sigLine).flatten) <;> simp [he]
        · have hc : ¬ ((some b1).isSome = true ∧ ∀ l ∈ ls, (decodeHex (sigLine l)).isSome) := fun h => hall h.2
          rw [if_neg hall, if_neg hc]; simp [he]

theorem decodeHex_flatten_isSome : ∀ ls : List (List Char), (∀ l ∈ ls, (decodeHex l).isSome) →
    (decodeHex ls.flatten).isSome
  | [], _ => rfl
  | l :: ls, h => by
    obtain ⟨b, hb⟩ := Option.isSome_iff_exists.mp (h l (List.mem_cons_self ..))
    rw [List.flatten_cons, decodeHex_append l b _ hb, Option.isSome_map]
    exact decodeHex_flatten_isSome ls fun m hm => h m (List.mem_cons_of_mem _ hm)

/-- **Soundness.** Whenever `ParseAnnotatedHex` succeeds, the bytes it returns are exactly the bytes
    denoted by the hex digits that lie outside comments — for every placement of whitespace, line
    breaks and ';' comments. -/
theorem hex_sound (x : List Char) (b : Bytes) (h : parseAnnotatedHex x = some b) :
    decodeHex (significant false x) = some b := by
  rw [parseAnnotatedHex, parseLines_eq] at h
  rw [significant_eq_flatten]
  split at h
  · exact h
  · cases h

theorem decodeHex_isSome_cons2 (a b : Char) (rest : List Char) :
    (decodeHex (a :: b :: rest)).isSome =
      ((hexDigitVal a).isSome && (hexDigitVal b).isSome && (decodeHex rest).isSome) := by
  rw [decodeHex]
  cases hexDigitVal a <;> cases hexDigitVal b <;> cases decodeHex rest <;> rfl

/-- a line qualifies exactly when it has an even number of significant characters, all hex digits -/
theorem decodeHex_isSome_iff : ∀ (s : List Char),
    (decodeHex s).isSome ↔ (s.length % 2 = 0 ∧ ∀ c ∈ s, (hexDigitVal c).isSome)
  | [] => by simp [decodeHex]
  | [c] => by simp [decodeHex]
  | c1 :: c2 :: rest => by
    have hlen : (c1 :: c2 :: rest).length % 2 = rest.length % 2 := by
      rw [List.length_cons, List.length_cons, Nat.add_assoc, Nat.add_mod_right]
    rw [hlen, decodeHex_isSome_cons2, Bool.and_eq_true, Bool.and_eq_true, decodeHex_isSome_iff rest,
      List.forall_mem_cons, List.forall_mem_cons]
    exact ⟨fun ⟨⟨h1, h2⟩, he, hr⟩ => ⟨he, h1, h2, hr⟩, fun ⟨he, h1, h2, hr⟩ => ⟨⟨h1, h2⟩, he, hr⟩⟩

/-- **Rejection.** Text containing anything other than hex digits, whitespace and comments is
    rejected: a foreign character outside a comment makes the call fail. -/
theorem hex_rejects (x : List Char) (c : Char) (hc : c ∈ significant false x) (hbad : hexDigitVal c = none) :
    parseAnnotatedHex x = none := by
  cases h : parseAnnotatedHex x with
  | none => rfl
  | some b =>
    have := ((decodeHex_isSome_iff _).mp (by rw [hex_sound x b h]; rfl)).2 c hc
    rw [hbad] at this; exact absurd this nofun

/-- **Completeness.** For every text whose lines each carry a whole number of bytes (all significant
    characters hex digits, an even number per line — i.e. line breaks fall *between* bytes; spaces,
    tabs and comments may be anywhere), the call succeeds and returns exactly the denoted bytes. -/
theorem hex_complete (x : List Char) (h : ∀ l ∈ splitLines x, (decodeHex (sigLine l)).isSome) :
    parseAnnotatedHex x = decodeHex (significant false x) ∧ (parseAnnotatedHex x).isSome := by
  rw [significant_eq_flatten, parseAnnotatedHex, parseLines_eq, if_pos h]
  exact ⟨rfl, decodeHex_flatten_isSome _ (List.forall_mem_map.mpr h)⟩

theorem isSome_ite {α} {c : Prop} [Decidable c] (a : α) (o : Option α) :
    (if c then some a else o).isSome ↔ c ∨ o.isSome := by
  by_cases h : c
  · simp [h]
  · simp [h]

/-- a character denotes a nibble exactly when it is one of `0-9`, `A-F`, `a-f` -/
theorem hexDigitVal_isSome_iff (c : Char) :
    (hexDigitVal c).isSome ↔
      ((48 ≤ c.toNat ∧ c.toNat ≤ 57) ∨ (65 ≤ c.toNat ∧ c.toNat ≤ 70) ∨ (97 ≤ c.toNat ∧ c.toNat ≤ 102)) := by
  unfold hexDigitVal
  dsimp only
  rw [isSome_ite, isSome_ite, isSome_ite, Option.isSome_none, Bool.false_eq_true, or_false]
  exact or_congr_right or_comm

/-- **No character outside ASCII is ever taken for a digit** (whatever its low byte, its case folding
    or its Unicode class): such a character outside a comment, unless it is whitespace, makes the call fail. -/
theorem hex_rejects_non_ascii (x : List Char) (c : Char) (hc : c ∈ significant false x) (h : 128 ≤ c.toNat) :
    parseAnnotatedHex x = none := by
  apply hex_rejects x c hc
  cases hv : hexDigitVal c with
  | none => rfl
  | some v =>
    have := (hexDigitVal_isSome_iff c).mp (by simp [hv])
    omega

/-! `hex_sound`, `hex_rejects`, `hex_complete` for the bytes of a Go string, well-formed UTF-8 or not (`goRunes`): a byte
    that is not part of a well-formed sequence is a foreign character like any other -/

theorem hex_bytes_sound (x b : Bytes) (h : parseAnnotatedHexBytes x = some b) :
    decodeHex (significant false (goRunes x)) = some b := hex_sound _ b h

theorem hex_bytes_rejects (x : Bytes) (c : Char) (hc : c ∈ significant false (goRunes x)) (hbad : hexDigitVal c = none) :
    parseAnnotatedHexBytes x = none := hex_rejects _ c hc hbad

theorem hex_bytes_complete (x : Bytes) (h : ∀ l ∈ splitLines (goRunes x), (decodeHex (sigLine l)).isSome) :
    parseAnnotatedHexBytes x = decodeHex (significant false (goRunes x)) ∧ (parseAnnotatedHexBytes x).isSome :=
  hex_complete _ h

theorem runeError_not_hex : hexDigitVal runeError = none := by decide

/-- **Path matching is exact**: a field is expanded / printed as a string exactly when its full tag
    path is one of the requested paths (no prefixes, no wildcards). -/
theorem pathsMatch_iff (paths : List (List Nat)) (p : List Nat) :
    pathsMatch paths p = true ↔ p ≠ [] ∧ p ∈ paths := by
  unfold pathsMatch pathMatches
  simp only [List.any_eq_true, Bool.and_eq_true, Bool.not_eq_true', beq_iff_eq]
  constructor
  · rintro ⟨tp, hm, hne, rfl⟩; exact ⟨by simpa using hne, hm⟩
  · rintro ⟨hne, hm⟩; exact ⟨p, hm, by simpa using hne, rfl⟩

/-- **protodump never crashes**: for every input and every expand/strings path sets the dump loop
    ends with "ok" or with a reported error, never with a panic (malformed input is an error). -/
theorem dumpLoop_no_panic (expand strs : List (List Nat)) :
    ∀ (fuel : Nat) (d : Dec) (parent : List Nat) (indent : Nat), d.Inv →
      (dumpLoop expand strs fuel d parent indent).2 ≠ .panic := by
  intro fuel
  induction fuel with
  | zero => intro d parent indent _; exact nofun
  | succ fuel ih =>
    intro d parent indent hi
    -- the goal is walked with `rw`: `split` / `simp` would expand the loop's local definitions at every step
    rw [dumpLoop]
    by_cases hm : d.off < d.len
    · rw [if_neg (fun h => h hm)]
      rcases d.tag_total hi with h | ⟨v, n, hle, h⟩ <;> rw [h] <;> dsimp only
      · exact nofun
      · have hi1 : (d.afterTag n).Inv := hle
        by_cases hw0 : v &&& 7 = wtVarint
        · rw [if_pos hw0]
          rcases C03.step_scalar_total (op := .int64) elInt64 .int (fun _ => rfl) elInt64_ok _ hi1 with
            h | ⟨d2, x, hi2, h⟩ <;> rw [h]
          · exact nofun
          · exact ih d2 parent indent hi2
        · rw [if_neg hw0]
          by_cases hw5 : v &&& 7 = wtFixed32
          · rw [if_pos hw5]
            rcases C03.step_scalar_total (op := .fixed32) elFixed32 .nat (fun _ => rfl) elFixed32_ok _ hi1 with
              h | ⟨d2, x, hi2, h⟩ <;> rw [h]
            · exact nofun
            · exact ih d2 parent indent hi2
          · rw [if_neg hw5]
            by_cases hw1 : v &&& 7 = wtFixed64
            · rw [if_pos hw1]
              rcases C03.step_scalar_total (op := .fixed64) elFixed64 .nat (fun _ => rfl) elFixed64_ok _ hi1 with
                h | ⟨d2, x, hi2, h⟩ <;> rw [h]
              · exact nofun
              · exact ih d2 parent indent hi2
            · rw [if_neg hw1]
              by_cases hw2 : v &&& 7 = wtLen
              · rw [if_pos hw2]
                rcases C03.step_bytes_total _ hi1 with h | ⟨d2, b, hi2, h⟩ <;> rw [h]
                · exact nofun
                · dsimp only
                  split
                  · exact ih d2 parent indent hi2
                  · split
                    · have hin := ih (Dec.new b) (parent ++ [v >>> 3]) (indent + 1) (C03.new_inv b)
                      split
                      · exact ih d2 parent indent hi2
                      · exact fun hp => hin (hp ▸ rfl)
                    · exact ih d2 parent indent hi2
              · rw [if_neg hw2]
                have := (C03.step_safe _ hi1 (.skip (v >>> 3) (v &&& 7))).noPanic
                split
                · rename_i hs; rw [hs] at this; exact absurd rfl this
                · exact nofun
    · rw [if_pos hm]; exact nofun

theorem dumpProto_no_panic (data : Bytes) (expand strs : List (List Nat)) :
    (dumpProto data expand strs).2 ≠ .panic :=
  dumpLoop_no_panic expand strs _ _ _ _ (C03.new_inv data)

/-! `DTree` is a message the way a reference parser sees it once it has been told which fields hold
  messages: leaves are records, `msg` is a length-delimited field whose payload is again a sequence of
  trees.  `Fits` ties a tree to the path sets: a `msg` node sits at a path that is requested for expansion
  (and not as a string), a length-delimited leaf sits at a path that is requested as a string or not
  requested for expansion.  For every such tree, of any depth and with any sibling order, the dump is the
  reference rendering `rendersD`: one entry per field in wire order, the requested strings as strings,
  and below each requested path - and nowhere else - the entries of the nested message, one level deeper. -/

inductive DTree where
  | leaf (r : Rec)
  | msg (tag : Nat) (kids : List DTree)

mutual
def DTree.wire : DTree → Bytes
  | .leaf r => r.wire
  | .msg t kids => encTag t wtLen ++ (encVarint (wiresD kids).length ++ wiresD kids)
def wiresD : List DTree → Bytes
  | [] => []
  | k :: ks => k.wire ++ wiresD ks
end

mutual
def DTree.size : DTree → Nat
  | .leaf _ => 1
  | .msg _ kids => 1 + sizesD kids
def sizesD : List DTree → Nat
  | [] => 0
  | k :: ks => k.size + sizesD ks
end

/-- a length-delimited leaf is not at a path that gets expanded -/
def leafFits (expand strs : List (List Nat)) (parent : List Nat) : Rec → Prop
  | .len t _ => pathsMatch strs (parent ++ [t]) = true ∨ pathsMatch expand (parent ++ [t]) = false
  | _ => True

mutual
def DTree.Fits (expand strs : List (List Nat)) : List Nat → DTree → Prop
  | parent, .leaf r => r.OK ∧ leafFits expand strs parent r
  | parent, .msg t kids => 1 ≤ t ∧ t ≤ maxTagValue ∧ (wiresD kids).length ≤ maxFieldLen ∧
      pathsMatch strs (parent ++ [t]) = false ∧ pathsMatch expand (parent ++ [t]) = true ∧
      FitsAll expand strs (parent ++ [t]) kids
def FitsAll (expand strs : List (List Nat)) : List Nat → List DTree → Prop
  | _, [] => True
  | parent, k :: ks => k.Fits expand strs parent ∧ FitsAll expand strs parent ks
end

/-- what protodump must print for the record (no expand / strings paths) -/
def Rec.entry (indent : Nat) : Rec → Bytes
  | .varint t v => asciiBytes s!"{indentStr indent}tag: {t}, wire type: {wtName wtVarint}\n" ++
      asciiBytes s!"{indentStr indent}  varint: {toI64 v}\n"
  | .fixed32 t v => asciiBytes s!"{indentStr indent}tag: {t}, wire type: {wtName wtFixed32}\n" ++
      asciiBytes s!"{indentStr indent}  fixed32: {v}\n"
  | .fixed64 t v => asciiBytes s!"{indentStr indent}tag: {t}, wire type: {wtName wtFixed64}\n" ++
      asciiBytes s!"{indentStr indent}  fixed64: {v}\n"
  | .len t b => asciiBytes s!"{indentStr indent}tag: {t}, wire type: {wtName wtLen}\n" ++
      (asciiBytes s!"{indentStr indent}  length: {b.length}\n" ++
       asciiBytes (s!"{indentStr indent}  [" ++ ",".intercalate (b.map byteHex) ++ "]\n"))

/-- the entry of a record when `strs` are the paths requested as strings -/
def Rec.entryWith (strs : List (List Nat)) (parent : List Nat) (indent : Nat) : Rec → Bytes
  | .len t b =>
    asciiBytes s!"{indentStr indent}tag: {t}, wire type: {wtName wtLen}\n" ++
      (asciiBytes s!"{indentStr indent}  length: {b.length}\n" ++
       (if pathsMatch strs (parent ++ [t]) then
          asciiBytes s!"{indentStr indent}  string: " ++ b ++ asciiBytes "\n"
        else asciiBytes (s!"{indentStr indent}  [" ++ ",".intercalate (b.map byteHex) ++ "]\n")))
  | r => Rec.entry indent r

mutual
/-- the reference rendering -/
def DTree.render (strs : List (List Nat)) : List Nat → Nat → DTree → Bytes
  | parent, indent, .leaf r => Rec.entryWith strs parent indent r
  | parent, indent, .msg t kids =>
    Rec.entry indent (.len t (wiresD kids)) ++ rendersD strs (parent ++ [t]) (indent + 1) kids
def rendersD (strs : List (List Nat)) : List Nat → Nat → List DTree → Bytes
  | _, _, [] => []
  | parent, indent, k :: ks => k.render strs parent indent ++ rendersD strs parent indent ks
end

theorem DTree.size_pos (k : DTree) : 0 < k.size := by cases k <;> simp [DTree.size] <;> omega

mutual
theorem DTree.size_le_wire : ∀ k : DTree, k.size ≤ k.wire.length
  | .leaf r => by
    have := List.length_pos_iff.mpr (Rec.wire_ne_nil r)
    simp [DTree.size, DTree.wire]; omega
  | .msg t kids => by
    have h1 := sizesD_le_wires kids
    have h2 : 0 < (encTag t wtLen).length := List.length_pos_iff.mpr (encTag_ne_nil _ _)
    simp [DTree.size, DTree.wire]; omega
theorem sizesD_le_wires : ∀ ks : List DTree, sizesD ks ≤ (wiresD ks).length
  | [] => by simp [sizesD, wiresD]
  | k :: ks => by
    have h1 := DTree.size_le_wire k
    have h2 := sizesD_le_wires ks
    simp [sizesD, wiresD]; omega
end

/-- how protodump reads the value of a record: the decoder method it calls and the item that comes back -/
def Rec.readOp : Rec → DecOp
  | .varint .. => .int64 | .fixed32 .. => .fixed32 | .fixed64 .. => .fixed64 | .len .. => .bytes

def Rec.item : Rec → Item
  | .varint _ v => .int (toI64 v) | .fixed32 _ v | .fixed64 _ v => .nat v | .len _ b => .bytes b

/-- `DecodeTag` and the value method on a well-formed record: key and value come back and the cursor
    lands behind the record -/
theorem Rec.read_at {r : Rec} (hok : r.OK) {d : Dec} {pre rest : Bytes} (h : d.At pre (r.wire ++ rest)) :
    ∃ d1 d2, d.step .tag = (d1, .ok (.tag r.tag r.wt), 0) ∧ d1.step (Rec.readOp r) = (d2, .ok (Rec.item r), 0) ∧
      d2.At (pre ++ r.wire) rest := by
  obtain ⟨htag, h1⟩ := Rec.tag_at hok h
  have hne := (Rec.body_wf hok).ne_nil
  refine ⟨_, _, htag, ?_, List.append_assoc pre _ _ ▸ h1.advance⟩
  cases r with
  | varint t v => exact Dec.step_scalar_at elInt64 .int (fun _ => rfl) h1 hne _ (elInt64_encVarint v hok.2.2 _)
  | fixed32 t v => exact Dec.step_scalar_at elFixed32 .nat (fun _ => rfl) h1 hne _ (elFixed32_enc v hok.2.2 _)
  | fixed64 t v => exact Dec.step_scalar_at elFixed64 .nat (fun _ => rfl) h1 hne _ (elFixed64_enc v hok.2.2 _)
  | len t b => exact Dec.step_bytes_at h1 hok.2.2

/-- the loop's dispatch on the wire type, for the wire type of a record -/
theorem Rec.wt_dispatch {α} (r : Rec) (A B C D E : α) :
    (if r.wt = wtVarint then A else if r.wt = wtFixed32 then B else if r.wt = wtFixed64 then C
      else if r.wt = wtLen then D else E) =
    match r with | .varint .. => A | .fixed32 .. => B | .fixed64 .. => C | .len .. => D := by
  cases r <;> rfl

/-- **protodump recurses into exactly the requested paths**, at every depth: for every tree that fits
    the path sets the dump loop prints the reference rendering and ends without an error. -/
theorem dump_tree (expand strs : List (List Nat)) :
    ∀ (fuel : Nat) (ks : List DTree) (d : Dec) (pre : Bytes) (parent : List Nat) (indent : Nat),
      FitsAll expand strs parent ks → sizesD ks < fuel → d.At pre (wiresD ks) →
      dumpLoop expand strs fuel d parent indent = (rendersD strs parent indent ks, .ok) := by
  intro fuel
  induction fuel with
  | zero => intro ks d pre parent indent _ hf _; omega
  | succ fuel ih =>
    intro ks d pre parent indent hfit hf h
    cases ks with
    | nil =>
      rw [dumpLoop, if_pos (Dec.At.eof h)]; rfl
    | cons k rs =>
      obtain ⟨hk, hrs⟩ := hfit
      have hsz : k.size + sizesD rs < fuel + 1 := hf
      have hmore : d.off < d.len := by
        have h1 := DTree.size_le_wire k
        have := DTree.size_pos k
        rw [h.len, h.off]; simp [wiresD]; omega
      have ih' := fun d2 pre2 => ih rs d2 pre2 parent indent hrs (by have := DTree.size_pos k; omega)
      rw [dumpLoop, if_neg (fun h => h hmore)]
      cases k with
      | leaf r =>
        obtain ⟨hok, hleaf⟩ := hk
        obtain ⟨d1, d2, htag, hval, h2⟩ := Rec.read_at hok (rest := wiresD rs) h
        rw [htag]
        dsimp only
        rw [Rec.wt_dispatch]
        cases r with
        | varint t v | fixed32 t v | fixed64 t v =>
          dsimp only [Rec.readOp, Rec.item] at hval ⊢
          rw [hval]
          dsimp only
          rw [ih' _ _ h2]
          rfl
        | len t b =>
          dsimp only
          rw [show d1.step .bytes = _ from hval]
          dsimp only [Rec.item]
          rw [ih' _ _ h2]
          by_cases hs : pathsMatch strs (parent ++ [t]) = true
          · rw [if_pos (by exact hs)]; simp [rendersD, DTree.render, Rec.entryWith, Rec.tag, Rec.wt, hs]
          · rw [if_neg (by exact hs), if_neg (by exact ne_true_of_eq_false (hleaf.resolve_left hs))]
            simp [rendersD, DTree.render, Rec.entryWith, Rec.tag, Rec.wt, hs]
      | msg t kids =>
        obtain ⟨h1, ht, hb, hs, he, hkids⟩ := hk
        obtain ⟨d1, d2, htag, hval, h2⟩ := Rec.read_at (r := .len t (wiresD kids)) ⟨h1, ht, hb⟩ (rest := wiresD rs) h
        have hinner := ih kids (Dec.new (wiresD kids)) [] (parent ++ [(Rec.len t (wiresD kids)).tag]) (indent + 1)
          hkids (by simp only [DTree.size] at hsz; omega) (Dec.new_at _)
        rw [htag]
        dsimp only
        rw [Rec.wt_dispatch]
        dsimp only
        rw [show d1.step .bytes = _ from hval]
        dsimp only [Rec.item]
        rw [if_neg (by exact ne_true_of_eq_false hs), if_pos (by exact he), hinner, ih' _ _ h2]
        simp [rendersD, DTree.render, Rec.entry, Rec.tag, Rec.wt]

/-- a message none of whose fields is expanded: only leaves, no paths -/
theorem leaves_facts (parent : List Nat) (indent : Nat) (rs : List Rec) (hrs : ∀ r ∈ rs, r.OK) :
    FitsAll [] [] parent (rs.map .leaf) ∧ sizesD (rs.map .leaf) = rs.length ∧
      wiresD (rs.map .leaf) = (rs.map Rec.wire).flatten ∧
      rendersD [] parent indent (rs.map .leaf) = (rs.map (Rec.entry indent)).flatten := by
  induction rs with
  | nil => exact ⟨trivial, rfl, rfl, rfl⟩
  | cons r rs ih =>
    obtain ⟨h1, h2, h3, h4⟩ := ih fun q hq => hrs q (List.mem_cons_of_mem _ hq)
    refine ⟨⟨⟨hrs r (List.mem_cons_self ..), ?_⟩, h1⟩, ?_, ?_, ?_⟩
    · cases r <;> first | trivial | exact .inr rfl
    · simp only [List.map_cons, sizesD, DTree.size, h2, List.length_cons]; omega
    · simp only [List.map_cons, wiresD, DTree.wire, h3, List.flatten_cons]
    · have : Rec.entryWith [] parent indent r = Rec.entry indent r := by cases r <;> rfl
      simp only [List.map_cons, rendersD, DTree.render, this, h4, List.flatten_cons]

/-- **One entry per field, in wire order, carrying the field number, wire type and value a
    reference parser finds** — for every sequence of well-formed records. -/
theorem dump_entries (rs : List Rec) (hrs : ∀ r ∈ rs, r.OK) :
    ∀ (fuel : Nat) (d : Dec) (pre : Bytes) (parent : List Nat) (indent : Nat),
      rs.length < fuel → d.At pre ((rs.map Rec.wire).flatten) →
      dumpLoop [] [] fuel d parent indent = (((rs.map (Rec.entry indent)).flatten), .ok) := by
  intro fuel d pre parent indent hf h
  obtain ⟨h1, h2, h3, h4⟩ := leaves_facts parent indent rs hrs
  rw [← h4]
  exact dump_tree [] [] fuel _ d pre parent indent h1 (h2 ▸ hf) (h3 ▸ h)

/-- the whole program: `protodump -expand … -strings …` on the encoding of a tree that fits the path sets -/
theorem dumpProto_tree (expand strs : List (List Nat)) (ks : List DTree) (h : FitsAll expand strs [] ks) :
    dumpProto (wiresD ks) expand strs = (rendersD strs [] 0 ks, .ok) := by
  unfold dumpProto
  exact dump_tree expand strs _ ks _ [] [] 0 h (by have := sizesD_le_wires ks; omega) (Dec.new_at _)

/-- what "fits" means in terms of the requested paths (exact matching, `pathsMatch_iff`): a field is
    recursed into iff its full path is among the `-expand` paths and not among the `-strings` paths -/
theorem recursed_iff (expand strs : List (List Nat)) (p : List Nat) (hp : p ≠ []) :
    (pathsMatch strs p = false ∧ pathsMatch expand p = true) ↔ (p ∈ expand ∧ p ∉ strs) := by
  have h1 := pathsMatch_iff expand p
  have h2 := pathsMatch_iff strs p
  constructor
  · rintro ⟨hs, he⟩
    refine ⟨(h1.mp he).2, fun hm => ?_⟩
    have := h2.mpr ⟨hp, hm⟩
    simp [hs] at this
  · rintro ⟨he, hs⟩
    refine ⟨?_, h1.mpr ⟨hp, he⟩⟩
    cases hm : pathsMatch strs p with
    | false => rfl
    | true => exact absurd (h2.mp hm).2 hs

/-! ## non-vacuity -/
example : parseAnnotatedHex "08 ; tag\n 96 01\t; value".toList = some [0x08, 0x96, 0x01] := by decide +kernel
example : (dumpProto [0x08, 0x96, 0x01] [] []).2 = .ok := by decide +kernel
-- characters whose code point merely ends in the code of a hex digit (U+0134 -> '4', U+0661 -> 'a') are foreign
example : parseAnnotatedHex "08 6Ĵ".toList = none := by decide +kernel
example : parseAnnotatedHex "0١ 02".toList = none := by decide +kernel
example : parseAnnotatedHex "08 ６4".toList = none := by decide +kernel
-- a stray continuation byte / a truncated sequence outside a comment is foreign, inside a comment it is nothing
example : parseAnnotatedHexBytes [0x30, 0x38, 0x80] = none := by decide +kernel
example : parseAnnotatedHexBytes [0x30, 0x38, 0x3B, 0xC3, 0x0A, 0x36, 0x34] = some [0x08, 0x64] := by decide +kernel
-- ... but anything goes inside a comment
example : parseAnnotatedHex "08 ; Ĵ١\n64".toList = some [0x08, 0x64] := by decide +kernel

/-! four levels deep, four sibling fields that are treated differently (raw, string, message, string): an
    instance of `dumpProto_tree` (the hypotheses can be met), and a well-formed message that reads as hex text -/
def ladTree : List DTree :=
  [.msg 1 [.msg 1 [.msg 1 [.leaf (.len 1 [0xDE,0xAD]), .leaf (.len 2 [0x68,0x69]), .msg 3 [.leaf (.varint 1 5)], .leaf (.len 4 [0x79,0x6F])]]]]
def ladBytes : Bytes := [0x0A,0x14,0x0A,0x12,0x0A,0x10,0x0A,0x02,0xDE,0xAD,0x12,0x02,0x68,0x69,0x1A,0x02,0x08,0x05,0x22,0x02,0x79,0x6F]
theorem ladTree_wire : wiresD ladTree = ladBytes := by decide +kernel
theorem ladTree_fits : FitsAll [[1],[1,1],[1,1,1],[1,1,1,3]] [[1,1,1,2],[1,1,1,4]] [] ladTree := by
  simp only [ladTree, FitsAll, DTree.Fits, leafFits, Rec.OK]
  decide +kernel
example : dumpProto ladBytes [[1],[1,1],[1,1,1],[1,1,1,3]] [[1,1,1,2],[1,1,1,4]] =
    (rendersD [[1,1,1,2],[1,1,1,4]] [] 0 ladTree, .ok) := by
  rw [← ladTree_wire]; exact dumpProto_tree _ _ _ ladTree_fits
theorem hexish_wire : wiresD [.leaf (.varint 6 56), .leaf (.varint 6 49)] = [0x30, 0x38, 0x30, 0x31] := by
  decide +kernel
example : dumpProto [0x30, 0x38, 0x30, 0x31] [] [] =
    (Rec.entry 0 (.varint 6 56) ++ (Rec.entry 0 (.varint 6 49) ++ []), .ok) := by
  rw [← hexish_wire]
  exact dumpProto_tree [] [] _ (by simp [FitsAll, DTree.Fits, leafFits, Rec.OK, maxTagValue, two64])

end Csproto.C20
