import Csproto.Proofs.Lazy
import Csproto.Props.C03
/-
  C13 — Lazy partial decoding equals a full reference parse.

  Reference side: a well-formed message is a list of records `rs : List Rec` (number, wire type,
  raw value) — what any wire-format parser finds; `lookup rs tag` are the raw values of the tag's
  occurrences in wire order.
-/
namespace Csproto.C13
open Csproto

/-- the reference parser's answer for a tag: raw values of all occurrences, in wire order -/
def lookup (rs : List Rec) (tag : Nat) : List Bytes := (rs.filter (·.tag = tag)).map Rec.chunk

/-- every field number of the message uses one wire type throughout -/
def OneWireType (rs : List Rec) : Prop := ∀ r1 ∈ rs, ∀ r2 ∈ rs, r1.tag = r2.tag → r1.wt = r2.wt

/-- what one record does to the data recorded at index `i` -/
theorem applyRec_data (flat : List Nat) (fds : List FD) (r : Rec) (i : Nat) :
    (applyRec flat fds r)[i]? =
      fds[i]?.map (fun fd => if idxOf? flat r.tag = some i then { wt := r.wt, data := fd.data ++ [r.chunk] } else fd) := by
  unfold applyRec
  cases idxOf? flat r.tag with
  | none => simp
  | some j =>
    dsimp only
    by_cases hji : j = i
    · subst hji
      cases hget : fds[j]? with
      | none => simp [hget]
      | some fd => simp [List.getElem?_set_self (List.getElem?_eq_some_iff.mp hget).1]
    · have : ¬ (some j = some i) := fun h => hji (Option.some.inj h)
      cases hget : fds[j]? <;> simp [List.getElem?_set_ne hji, this]

/-- recorded wire types agree with the message's -/
def WtInv (flat : List Nat) (all : List Rec) (fds : List FD) : Prop :=
  ∀ i fd, fds[i]? = some fd → fd.data = [] ∨ ∀ r ∈ all, idxOf? flat r.tag = some i → fd.wt = r.wt

theorem wtInv_applyRec {flat : List Nat} {all : List Rec} (hw : OneWireType all) {fds : List FD} (h : WtInv flat all fds)
    (r : Rec) (hr : r ∈ all) : WtInv flat all (applyRec flat fds r) := by
  intro j fd' hj
  rw [applyRec_data, Option.map_eq_some_iff] at hj
  obtain ⟨fd, hfd, rfl⟩ := hj
  split
  · rename_i hidx
    exact .inr fun r' hr' hidx' => hw r hr r' hr' (idxOf?_inj hidx hidx')
  · exact h j fd hfd

theorem noConflict_of_inv {flat : List Nat} {all : List Rec} (hw : OneWireType all) :
    ∀ (rs : List Rec) (fds : List FD), (∀ r ∈ rs, r ∈ all) → WtInv flat all fds → NoConflict flat fds rs
  | [], _, _, _ => trivial
  | r :: rs, fds, hsub, hinv => by
    refine ⟨?_, noConflict_of_inv hw rs _ (fun q hq => hsub q (by simp [hq])) (wtInv_applyRec hw hinv r (hsub r (by simp)))⟩
    intro i fd hidx hget
    rcases hinv i fd hget with h | h
    · exact Or.inl h
    · exact Or.inr (h r (hsub r (by simp)) hidx)

theorem wtInv_clean (flat : List Nat) (all : List Rec) (n : Nat) : WtInv flat all (cleanFds n) := by
  intro i fd h
  obtain ⟨_, he⟩ := List.getElem?_eq_some_iff.mp h
  simp only [cleanFds, List.getElem_replicate] at he
  exact .inl (he ▸ rfl)

/-- **Lazy decoding succeeds on every well-formed message** and leaves exactly `applyRecs` in the
    result's field data. -/
theorem decode_records (flat : List Nat) (rs : List Rec) (hok : ∀ r ∈ rs, r.OK) (hw : OneWireType rs) :
    decodeInto flat (cleanFds flat.length) (wiresOf rs) = .ok (applyRecs flat (cleanFds flat.length) rs) := by
  unfold decodeInto
  exact loop_records flat rs hok _ _ [] _ (by have := length_le_wiresOf rs; omega)
    ⟨by simp, rfl⟩ rfl (by simp [cleanFds])
    (noConflict_of_inv hw rs _ (fun _ h => h) (wtInv_clean flat rs _))

/-- **What the result holds for a requested tag is exactly the reference parser's answer**: the raw
    values of all occurrences of that tag, in wire order. -/
theorem recorded_eq_lookup (flat : List Nat) (hn : flat.Nodup) (rs : List Rec) :
    ∀ (fds : List FD) (i : Nat) (hi : i < flat.length),
      ((applyRecs flat fds rs)[i]?.map FD.data) = (fds[i]?.map FD.data).map (· ++ lookup rs flat[i]) := by
  induction rs with
  | nil =>
    intro fds i hi
    cases h : fds[i]? <;> simp [applyRecs, lookup, h]
  | cons r rs ih =>
    intro fds i hi
    have hstep := applyRec_data flat fds r i
    have := ih (applyRec flat fds r) i hi
    simp only [applyRecs, List.foldl_cons] at this ⊢
    rw [this, hstep]
    have hiff := idxOf?_eq_some_iff_of_nodup hn (x := r.tag) hi
    cases hfd : fds[i]? with
    | none => simp
    | some fd =>
      by_cases ht : r.tag = flat[i]
      · simp [idxOf?_of_nodup hn hi, lookup, ht]
      · simp [mt hiff.mp ht, lookup, ht]

/-- corollary for a freshly created (or, by C14, recycled) result -/
theorem recorded_eq_lookup_clean (flat : List Nat) (hn : flat.Nodup) (rs : List Rec) (i : Nat) (hi : i < flat.length) :
    ((applyRecs flat (cleanFds flat.length) rs)[i]?.map FD.data) = some (lookup rs flat[i]) := by
  rw [recorded_eq_lookup flat hn rs _ i hi]
  simp [cleanFds, hi]

/-- undeclared tag ⇒ not-defined -/
theorem undeclared_notDefined (dec : LDec) (fds : List FD) (tag : Nat) (a : Acc) (h : tag ∉ dec.flat) :
    accessTag dec fds tag a = .notDefined := by
  unfold accessTag
  split
  · rfl
  · simp [idxOf?_eq_none h]

/-- declared but absent ⇒ not-found -/
theorem absent_notFound (dec : LDec) (fds : List FD) (tag i : Nat) (a : Acc) (fd : FD)
    (hi : idxOf? dec.flat tag = some i) (hfd : fds[i]? = some fd) (hempty : fd.data = []) :
    accessTag dec fds tag a = .notFound := by
  unfold accessTag
  have : ¬ dec.flat.isEmpty := by
    intro he; have := idxOf?_lt hi; simp at he; simp [he] at this
  simp [this, hi, hfd, hempty]

/-- a nested request on a tag declared without a nested definition ⇒ nesting-not-defined -/
theorem nesting_notDefined (dec : LDec) (fds : List FD) (tag i : Nat)
    (hn : ¬ dec.nested.isEmpty) (hi : idxOf? dec.flat tag = some i) (hsub : dec.sub tag = none) :
    nestedSelect dec fds tag = .ans .nestingNotDefined := by
  unfold nestedSelect; simp [hn, hi, hsub]

/-- a single-value request that does not fit the recorded wire type ⇒ mismatch -/
theorem scalar_mismatch {α} (fd : FD) (wt : Nat) (conv : Bytes → Conv α) (mk : α → Item)
    (hne : fd.data ≠ []) (hwt : fd.wt ≠ wt) : scalarValue fd wt conv mk = .mismatch := by
  unfold scalarValue
  have : fd.data.getLast? ≠ none := by simpa using hne
  cases h : fd.data.getLast? with
  | none => exact absurd h this
  | some last => simp [hwt]

/-- a slice request on a field that is neither of the element's wire type nor length-delimited ⇒ mismatch -/
theorem slice_mismatch {α} (fd : FD) (wt : Nat) (conv : Bytes → Conv α) (mk : List α → Item)
    (hne : fd.data ≠ []) (h1 : fd.wt ≠ wt) (h2 : fd.wt ≠ wtLen) : sliceValue fd wt conv mk = .mismatch := by
  unfold sliceValue
  have : ¬ fd.data.isEmpty := by simpa using hne
  simp [this, h1, h2]

/-- **Single-value accessor = last occurrence.** If the last recorded occurrence `c` of the right
    wire type converts to `v`, the accessor returns `v` (whatever came before). -/
theorem scalar_last {α} (fd : FD) (wt : Nat) (conv : Bytes → Conv α) (mk : α → Item)
    (cs : List Bytes) (c : Bytes) (v : α) (n : Nat)
    (hd : fd.data = cs ++ [c]) (hwt : fd.wt = wt) (hc : conv c = .ok v n) :
    scalarValue fd wt conv mk = .ok (mk v) := by
  unfold scalarValue
  simp [hd, hwt, hc]

theorem convVarint_enc {α} (f : Nat → Option α) (v : Nat) (hv : v < two64) (x : α) (hf : f v = some x) (rest : Bytes) :
    convVarint f (encVarint v ++ rest) = .ok x (encVarint v).length := by
  unfold convVarint; rw [decodeVarint_encVarint v hv]; simp [hf]

/-- **Value range of `sint32`.** A varint that does not fit in 32 bits asked for as `sint32` is an overflow
    error (as for `int32` / `uint32`), one that fits is the zig-zag decoding of its 32 bits. -/
theorem sint32_range (v : Nat) (hv : v < two64) (rest : Bytes) :
    convZz32 (encVarint v ++ rest) =
      if v > 4294967295 then .overflow else .ok (unzigzag (v % two32)) (encVarint v).length := by
  unfold convZz32
  rw [decodeVarint_encVarint v hv]
  have hpos : (encVarint v).length ≠ 0 := by have := encVarint_length_pos v; omega
  simp [hpos]

theorem sint32_overflow (fd : FD) (cs : List Bytes) (v : Nat) (hv : v < two64) (hbig : v > 4294967295) (rest : Bytes)
    (hd : fd.data = cs ++ [encVarint v ++ rest]) (hwt : fd.wt = wtVarint) :
    accessFD fd .sint32 = .overflow := by
  simp only [accessFD, scalarValue, hd, List.getLast?_append, List.getLast?_singleton, Option.some_or, hwt,
    ne_eq, not_true_eq_false, if_false, sint32_range v hv rest, hbig, if_true]

/-- the inner loop over one occurrence: a run of encoded values yields exactly those values -/
theorem chunkValues_run {α} (conv : Bytes → Conv α) (enc : α → Bytes)
    (henc : ∀ v rest, conv (enc v ++ rest) = .ok v (enc v).length) (hpos : ∀ v, 0 < (enc v).length) :
    ∀ (vs : List α) (fuel : Nat) (acc : List α), vs.length < fuel →
      chunkValues conv fuel ((vs.map enc).flatten) acc = some (some (acc ++ vs)) := by
  intro vs
  induction vs with
  | nil => intro fuel acc hf; match fuel, hf with | fuel + 1, _ => simp [chunkValues]
  | cons v vs ih =>
    intro fuel acc hf
    match fuel, hf with
    | fuel + 1, hf =>
      have hp := hpos v
      have hne : ¬ (enc v ++ (vs.map enc).flatten).isEmpty := by
        rw [List.isEmpty_iff, List.append_eq_nil_iff]
        exact fun h => List.ne_nil_of_length_pos hp h.1
      have hn0 : ¬ (enc v).length = 0 := by omega
      simp only [List.map_cons, List.flatten_cons, chunkValues, hne, henc, hn0, if_false]
      rw [List.drop_left, ih fuel (acc ++ [v]) (by simp at hf; omega)]
      simp

/-- **Slice accessor = all occurrences in wire order, packed runs expanded.** Each occurrence is a
    run of encoded values (a single value for the unpacked form, any number for the packed form). -/
theorem sliceLoop_runs {α} (wt : Nat) (hwt : wt ≠ wtLen) (conv : Bytes → Conv α) (enc : α → Bytes)
    (henc : ∀ v rest, conv (enc v ++ rest) = .ok v (enc v).length) (hpos : ∀ v, 0 < (enc v).length) :
    ∀ (runs : List (List α)) (acc : List α),
      sliceLoop wt conv (runs.map fun vs => (vs.map enc).flatten) acc = some (some (acc ++ runs.flatten)) := by
  intro runs
  induction runs with
  | nil => intro acc; simp [sliceLoop]
  | cons vs runs ih =>
    intro acc
    simp only [List.map_cons, sliceLoop, hwt, if_false]
    have hfuel : vs.length < ((vs.map enc).flatten).length + 1 := by
      have := length_le_flatten enc vs (fun v _ => hpos v)
      omega
    rw [chunkValues_run conv enc henc hpos vs _ acc hfuel]
    simp only []
    rw [ih]; simp

/-- the full slice accessor on a field recorded as runs -/
theorem slice_all {α} (fd : FD) (wt : Nat) (hwt : wt ≠ wtLen) (conv : Bytes → Conv α) (enc : α → Bytes)
    (mk : List α → Item)
    (henc : ∀ v rest, conv (enc v ++ rest) = .ok v (enc v).length) (hpos : ∀ v, 0 < (enc v).length)
    (runs : List (List α)) (hne : runs ≠ [])
    (hd : fd.data = runs.map fun vs => (vs.map enc).flatten) (hfw : fd.wt = wt ∨ fd.wt = wtLen) :
    sliceValue fd wt conv mk = .ok (mk runs.flatten) := by
  unfold sliceValue
  have h1 : ¬ fd.data.isEmpty := by rw [hd]; simp [hne]
  have h2 : ¬ (List.map (fun vs => (List.map enc vs).flatten) runs).isEmpty := by rw [← hd]; exact h1
  simp only [hd, h2] at hfw ⊢
  simp only [hfw, if_true, sliceLoop_runs wt hwt conv enc henc hpos runs []]
  simp

/-- `UInt64Values`' conversion with the value's range carried in the type, as Go's `uint64` does -/
def convU64 (p : Bytes) : Conv { v : Nat // v < two64 } :=
  match convVarint some p with
  | .ok v n => if h : v < two64 then .ok ⟨v, h⟩ n else .err
  | .overflow => .overflow
  | .err => .err

/-- instance: `UInt64Values` over any mix of single and packed occurrences of 64-bit values -/
theorem uint64s_all (fd : FD) (runs : List (List { v : Nat // v < two64 })) (hne : runs ≠ [])
    (hd : fd.data = runs.map fun vs => (vs.map fun v => encVarint v.1).flatten)
    (hfw : fd.wt = wtVarint ∨ fd.wt = wtLen) :
    sliceValue fd wtVarint convU64 (fun vs => Item.nats (vs.map (·.1))) = .ok (.nats (runs.flatten.map (·.1))) := by
  apply slice_all fd wtVarint (by decide) convU64 (fun v => encVarint v.1) _ _ _ runs hne hd hfw
  · intro v rest
    unfold convU64
    rw [convVarint_enc some v.1 v.2 v.1 rfl]; simp [v.2]
  · intro v; exact encVarint_length_pos v.1

/-- a length-delimited target (strings / bytes) takes exactly one value per occurrence, empty ones
    included -/
theorem sliceLoop_len {α} (conv : Bytes → Conv α) (f : Bytes → α) (hconv : ∀ b, conv b = .ok (f b) b.length) :
    ∀ (chunks : List Bytes) (acc : List α), sliceLoop wtLen conv chunks acc = some (some (acc ++ chunks.map f)) := by
  intro chunks
  induction chunks with
  | nil => intro acc; simp [sliceLoop]
  | cons c cs ih => intro acc; simp [sliceLoop, hconv, ih]

/-- descending into a declared nested tag whose last occurrence carries the well-formed message
    `rs'` continues on exactly the field data the reference parse of `rs'` gives -/
theorem nested_step (fuel : Nat) (dec sub : LDec) (fds : List FD) (tag i : Nat) (rest : List Nat) (a : Acc)
    (hrest : rest ≠ []) (fd : FD) (cs : List Bytes) (rs' : List Rec)
    (hn : ¬ dec.nested.isEmpty) (hi : idxOf? dec.flat tag = some i) (hsub : dec.sub tag = some sub)
    (hfd : fds[i]? = some fd) (hd : fd.data = cs ++ [wiresOf rs']) (hwt : fd.wt = wtLen)
    (hne : rs' ≠ []) (hok : ∀ r ∈ rs', r.OK) (hw : OneWireType rs') :
    lookupPath (fuel + 1) dec (some fds) (tag :: rest) a =
      lookupPath fuel sub (some (applyRecs sub.flat (cleanFds sub.flat.length) rs')) rest a := by
  have hsel : nestedSelect dec fds tag = .payload sub (wiresOf rs') := by
    unfold nestedSelect; simp [hn, hi, hsub, hfd, hd, hwt]
  have hnonempty : ¬ (wiresOf rs').isEmpty := by
    have h1 := length_le_wiresOf rs'
    have h2 : 0 < rs'.length := List.length_pos_iff.mpr hne
    intro h
    have h0 : (wiresOf rs').length = 0 := by simpa using h
    omega
  cases rest with
  | nil => exact absurd rfl hrest
  | cons t ts =>
    simp only [lookupPath, hsel, hnonempty, decode_records sub.flat rs' hok hw]
    simp

theorem decodeIntoLoop_safe (flat : List Nat) :
    ∀ (fuel : Nat) (d : Dec) (fds : List FD), d.Inv → fds.length = flat.length →
      decodeIntoLoop flat fuel d fds ≠ .panic ∧
      ∀ fds', decodeIntoLoop flat fuel d fds = .ok fds' → fds'.length = flat.length := by
  intro fuel
  induction fuel with
  | zero => intro d fds _ _; exact ⟨nofun, nofun⟩
  | succ fuel ih =>
    intro d fds hi hl
    have err : (Res.err : Res (List FD)) ≠ .panic ∧ ∀ fds' : List FD, Res.err = .ok fds' → fds'.length = flat.length :=
      ⟨nofun, nofun⟩
    rw [decodeIntoLoop]
    by_cases hm : d.off < d.len
    · rw [if_neg (fun h => h hm)]
      rcases d.tag_total hi with h | ⟨v, n, hle, h⟩ <;> rw [h] <;> dsimp only
      · exact err
      · have hi1 : (d.afterTag n).Inv := hle
        cases hidx : idxOf? flat (v >>> 3) with
        | none =>
          dsimp only
          rcases C03.step_skip_total _ hi1 (v >>> 3) (v &&& 7) with h | ⟨d2, b, hi2, h⟩ <;> rw [h]
          · exact err
          · exact ih d2 fds hi2 hl
        | some i =>
          have hlt : i < fds.length := hl ▸ idxOf?_lt hidx
          have hget : fds[i]? = some fds[i] := List.getElem?_eq_getElem hlt
          dsimp only
          rw [hget]
          dsimp only
          by_cases hc : ¬ fds[i].data.isEmpty = true ∧ fds[i].wt ≠ v &&& 7
          · rw [if_pos hc]; exact err
          · rw [if_neg hc]
            by_cases hw : v &&& 7 = wtVarint ∨ v &&& 7 = wtFixed32 ∨ v &&& 7 = wtFixed64
            · rw [if_pos hw]
              rcases C03.step_skip_total _ hi1 (v >>> 3) (v &&& 7) with h | ⟨d2, b, hi2, h⟩ <;> rw [h]
              · exact err
              · exact ih d2 _ hi2 (by rw [List.length_set]; exact hl)
            · rw [if_neg hw]
              by_cases hw2 : v &&& 7 = wtLen
              · rw [if_pos hw2]
                rcases C03.step_bytes_total _ hi1 with h | ⟨d2, b, hi2, h⟩ <;> rw [h]
                · exact err
                · exact ih d2 _ hi2 (by rw [List.length_set]; exact hl)
              · rw [if_neg hw2]; exact err
    · rw [if_pos hm]; exact ⟨nofun, fun fds' h => by cases h; exact hl⟩

/-- **On every byte string** lazy decoding returns an error or a result, never a panic. -/
theorem decodeInto_total (flat : List Nat) (fds : List FD) (input : Bytes) (hl : fds.length = flat.length) :
    decodeInto flat fds input ≠ .panic ∧ ∀ fds', decodeInto flat fds input = .ok fds' → fds'.length = flat.length :=
  decodeIntoLoop_safe flat _ _ fds (by simp [Dec.Inv, Dec.len]) hl

theorem insertSorted_sorted (x : Nat) : ∀ (l : List Nat), l.Pairwise (· < ·) → (insertSorted x l).Pairwise (· < ·) ∧
    ∀ y ∈ insertSorted x l, y = x ∨ y ∈ l
  | [], _ => by simp [insertSorted]
  | y :: ys, h => by
    have hy := List.pairwise_cons.mp h
    simp only [insertSorted]
    by_cases h1 : x < y
    · simp only [h1, if_true]
      refine ⟨List.pairwise_cons.mpr ⟨?_, h⟩, by simp⟩
      intro z hz; simp at hz
      rcases hz with rfl | hz
      · exact h1
      · exact Nat.lt_trans h1 (hy.1 z hz)
    · by_cases h2 : x = y
      · subst h2
        simp only [Nat.lt_irrefl, if_false, if_true]
        exact ⟨h, fun z hz => Or.inr hz⟩
      · simp only [h1, h2, if_false]
        have ih := insertSorted_sorted x ys hy.2
        refine ⟨List.pairwise_cons.mpr ⟨?_, ih.1⟩, ?_⟩
        · intro z hz
          rcases ih.2 z hz with rfl | hz'
          · omega
          · exact hy.1 z hz'
        · intro z hz; simp at hz
          rcases hz with rfl | hz
          · simp
          · rcases ih.2 z hz with rfl | h'
            · simp
            · simp [h']

theorem sortDedup_sorted (xs : List Nat) : (sortDedup xs).Pairwise (· < ·) := by
  unfold sortDedup
  induction xs with
  | nil => simp
  | cons x xs ih => exact (insertSorted_sorted x _ ih).1

theorem sortDedup_nodup (xs : List Nat) : (sortDedup xs).Nodup :=
  (sortDedup_sorted xs).imp (fun h => Nat.ne_of_lt h)

/-- the compiled decoder's flat tag table is duplicate-free for every definition -/
theorem compile_flat_nodup (d : LDef) : d.compile.flat.Nodup := by
  cases d with
  | node es => simp only [LDef.compile, LDec.flat]; exact sortDedup_nodup _

/-! ## non-vacuity: a concrete message meeting the hypotheses of `decode_records` -/
example : (∀ r ∈ [Rec.varint 1 150, .len 3 [1, 2], .varint 1 7, .fixed32 9 5], r.OK) ∧
    OneWireType [Rec.varint 1 150, .len 3 [1, 2], .varint 1 7, .fixed32 9 5] := by
  constructor
  · intro r hr
    simp at hr
    rcases hr with rfl | rfl | rfl | rfl <;> simp [Rec.OK, maxTagValue, two64, two32, maxFieldLen]
  · unfold OneWireType; decide

end Csproto.C13
