import Csproto.Props.C04
import Csproto.Model.GenDec
import Csproto.Proofs.GenRecords
import Csproto.Proofs.GenNested
import Csproto.Bridge.Templates
import Csproto.Bridge.Dispatch
/-
  C07 — Unknown fields survive Unmarshal followed by Marshal.

  * `size_counts_unknown`     — `Size()` = size of the known fields + the length of the retained bytes;
  * `marshal_reemits_unknown` — `Marshal()` ends with exactly the retained bytes, byte for byte, after
                                the known fields, for every schema and value;
  * `unmarshal_keeps_skipped` — every field `Unmarshal` does not know is appended, as the raw bytes
                                `Skip` returns, to the retained bytes and to nothing else (one loop step);
                                with C02's `Dec.skip_at` (Skip returns exactly key ++ payload of a
                                well-formed field) this gives byte-for-byte retention;
  * the two `example`s        — a message consisting of fields the schema does not define passes
                                through `Unmarshal`/`Marshal` unchanged (the older-schema scenario in
                                its purest form: the empty message type);
  * `unknown_retained_in_order`, `unknown_retained_in_order_nested`
                              — unknown fields interleaved with known ones in any order: exactly their raw
                                bytes are retained, in wire order, at every level of a record tree.
-/
namespace Csproto.C07
open Csproto Csproto.Gen

theorem size_counts_unknown (S : Schema) (md : MD) (fs : List F) (unk : Bytes) :
    sizeMsgV S md (.msg fs unk) = sizeFields S md fs + unk.length := rfl

theorem marshal_reemits_unknown (S : Schema) (md : MD) (fs : List F) (unk : Bytes) (bs : Bytes)
    (hok : OKFields S md fs) (h : marshal S md fs unk = .ok bs) :
    ∃ known, bs = known ++ unk ∧ known.length = sizeFields S md fs := by
  rcases C04.marshal_total S md fs unk hok with ⟨he, _⟩ | ⟨bs', hb, hlen, hcase⟩
  · rw [h] at he; cases he
  · rw [h] at hb; cases hb
    rcases hcase with ⟨ops, ho, hbs⟩ | ⟨_, _, hnil⟩
    · exact ⟨Gen.wiresOf ops, hbs, (fields_exact S md fs ops hok ho).1.symm⟩
    · subst hnil
      simp at hlen
      have hu : unk = [] := List.eq_nil_of_length_eq_zero (by omega)
      exact ⟨[], by simp [hu], by simp; omega⟩

theorem unmarshal_keeps_skipped (S : Schema) (fast : Bool) (fuel : Nat) (md : MD) (d d1 d2 : Dec)
    (fs : List F) (unk raw : Bytes) (num wt a1 a2 : Nat)
    (hmore : d.off < d.len) (htag : d.step .tag = (d1, .ok (.tag num wt), a1))
    (hunk : findField md num 0 = none) (hskip : d1.step (.skip num wt) = (d2, .ok (.bytes raw), a2)) :
    unmarshalLoop S fast (fuel + 1) md d fs unk = unmarshalLoop S fast fuel md d2 fs (unk ++ raw) :=
  unmarshalLoop_skip S fuel fs unk htag hunk hskip

/-- the facts the model's shape rests on, regenerated from both file templates -/
theorem template_facts : ∀ t ∈ Generated.unknownHandling, t.2.1 = true ∧ t.2.2.1 = true ∧ t.2.2.2 = true :=
  Bridge.Templates.unknown_fields_handled

/-- `reserved` declarations play no part: the generator never reads them, so the number of a deleted field is an
    undefined number (`findField … = none`, the hypothesis of `unmarshal_keeps_skipped`) and its data is retained -/
theorem reserved_numbers_are_undefined_numbers : Generated.reservedMentions = 0 :=
  Bridge.Templates.generator_ignores_reserved

/-- ownership: the bytes `Marshal()` returns are a buffer allocated by that call (both templates), so nothing
    the caller does to them afterwards can change what the message retains — in the model the result is a value;
    this is the fact that makes that reading of the code sound -/
theorem marshal_result_owned_by_caller :
    ∀ t ∈ Generated.marshalReturns, t.2.1 = true ∧ ∀ r ∈ t.2.2, r = "[]byte{}, nil" ∨ r = "buf, err" :=
  Bridge.Templates.marshal_result_is_fresh

/-- the retained bytes are touched by the generated code only: the hand-written package that the generated
    `Unmarshal` calls in the middle of its loop (extension arms) never mentions a message's unknown-field storage -/
theorem only_generated_code_touches_retained_bytes : Generated.shimUnknownStoreMentions = 0 :=
  Bridge.Templates.shim_leaves_unknown_store_alone

/-- a child message whose type this plug-in run has no generated code for (a well-known type, a type of a file
    generated without fast-marshal code) is handed WHOLE to its own runtime: `Encoder.EncodeNested`, `csproto.Size`
    and `csproto.Marshal` choose what to call by CAPABILITY alone (the interfaces a value implements, probed in this
    order) and never by concrete message type — no message type is sized or written field by field by the
    hand-written package, so the unknown fields such a child holds are its runtime's to count and to re-emit (that
    the runtimes do: oracle, unknown fields inside runtime-served children at every nesting position) -/
theorem nested_children_dispatched_by_capability :
    Generated.EncodeNested_arms =
        ["MarshalerTo:Size,EncodeTag,EncodeVarint,.MarshalTo", "Marshaler:.Marshal,.EncodeBytes", "default:Marshal,.EncodeBytes"] ∧
    Generated.Size_probes = ["Sizer:.Size", "ProtoV1Sizer:.XXX_Size", "proto.Message:proto.Size"] ∧
    Generated.Marshal_probes = ["Marshaler:.Marshal", "ProtoV1Marshaler:.XXX_Size,.XXX_Marshal", "proto.Message:proto.Marshal"] :=
  ⟨Bridge.encodeNested_arms_ok, Bridge.size_probes_ok, Bridge.marshal_probes_ok⟩

/-- a second `Marshal` of the same message yields the same bytes (the model's `marshal` is a function of the
    message contents; with `marshal_result_owned_by_caller` this is "re-emitted by the NEXT Marshal" for every
    later one as well) -/
theorem marshal_again_same (S : Schema) (md : MD) (fs : List F) (unk : Bytes) (b1 b2 : Bytes)
    (h1 : marshal S md fs unk = .ok b1) (h2 : marshal S md fs unk = .ok b2) : b1 = b2 := by
  rw [h1] at h2; injection h2

/-- non-vacuity (and the purest older-schema case): a message type that defines nothing keeps every
    field of all four wire types, in order, and writes them back unchanged -/
def sample : Bytes := [0x08, 0x96, 0x01, 0x15, 1, 2, 3, 4, 0x19, 1, 2, 3, 4, 5, 6, 7, 8, 0x22, 0x02, 0x68, 0x69,
  0xf8, 0xff, 0xff, 0xff, 0x0f, 0x05]
example : unmarshal [[]] false [] sample = .ok ([], sample) := by rfl
example : marshal [[]] [] [] sample = .ok sample := by rfl

theorem unknown_retained_in_order (S : Schema) (fast : Bool) (md : MD) (rs : List WRec) (hok : ∀ r ∈ rs, r.OK md)
    (fs : List F) (unk : Bytes) (h : unmarshal S fast md (wiresW rs) = .ok (fs, unk)) :
    unk = unknownBytes rs := by
  rw [unmarshal_records S fast md rs hok] at h
  split at h
  · cases h
  · injection h with h
    have h2 : unk = (rs.foldl (WRec.apply md) (initFields md, [])).2 := by rw [h]
    rw [h2, fold_unknown]; simp

/-- what is retained at one level of a record tree: the raw bytes of that level's unknown records -/
def unknownBytesN : List NRec → Bytes
  | [] => []
  | .flat (.unknown r) :: rs => r.wire ++ unknownBytesN rs
  | _ :: rs => unknownBytesN rs

/-- only a record of an undefined field changes what is retained -/
theorem applyN_unknown (S : Schema) (md : MD) (r : NRec) (rs : List NRec) (st st' : List F × Bytes)
    (h : r.applyN S md st = .ok st') : st'.2 ++ unknownBytesN rs = st.2 ++ unknownBytesN (r :: rs) := by
  cases r with
  | flat w =>
    cases (NRec.applyN_flat S md st w).symm.trans h
    cases w <;> simp [WRec.apply, unknownBytesN]
  | msg idx fd i sub =>
    -- a nested message that decodes goes into the known fields; otherwise the step fails
    rw [NRec.applyN_msg] at h
    cases hd : decodeMsgN S (S.md i) sub with
    | ok m =>
      rw [hd] at h
      cases h
      rfl
    | err =>
      rw [hd] at h
      cases h
    | panic =>
      rw [hd] at h
      cases h
  | map idx fd i sub =>
    -- likewise a map entry
    rw [NRec.applyN_map] at h
    cases hd : foldE S (S.md i) sub (initFields (S.md i)) with
    | ok efs =>
      rw [hd] at h
      cases h
      rfl
    | err =>
      rw [hd] at h
      cases h
    | panic =>
      rw [hd] at h
      cases h

theorem foldN_unknown (S : Schema) (md : MD) : ∀ (rs : List NRec) (st st' : List F × Bytes),
    foldN S md rs st = .ok st' → st'.2 = st.2 ++ unknownBytesN rs
  | [], st, st', h => by cases h; simp [unknownBytesN]
  | r :: rs, st, st', h => by
    obtain ⟨s1, hr, h⟩ := foldN_cons_eq_ok.mp h
    rw [foldN_unknown S md rs s1 st' h]
    exact applyN_unknown S md r rs st s1 hr

/-- **unknown fields interleaved with scalar, message-typed and map fields** (nested / repeated / recursive
    types, map entries in any form): exactly the unknown records' raw bytes of the top level are retained, in wire
    order; the same statement holds one level down for every nested message, whose own retained bytes are kept
    inside its decoded value (`decodeMsgN` is applied recursively by `NRec.applyN`) -/
theorem unknown_retained_in_order_nested (S : Schema) (fast : Bool) (md : MD) (rs : List NRec) (hok : OKs S md rs)
    (fs : List F) (unk : Bytes) (h : unmarshal S fast md (wiresN rs) = .ok (fs, unk)) :
    unk = unknownBytesN rs := by
  rw [unmarshal_nested S fast md rs hok] at h
  simpa using foldN_unknown S md rs _ _ (decodeMsgN_eq_ok.mp h).1

end Csproto.C07
