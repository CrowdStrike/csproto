import Csproto.Model.Pool
/-
  C14, what a client may observe.

  `outputs` runs a history of operations on the pooled state machine of `Model/Pool.lean`.  `Spec` is the
  simplest possible description of the same observations for histories on root results: every handle is
  either a nil result, a result *decoded from its own input by a brand-new object* (`fresh`), or closed.
  There is no pool and no object identity in it.  `OpOK` / `HistOK` is the contract of the API, for root results
  only: handles are not used after their `Close` (an immediately repeated `Close` excepted), accessor paths have
  at most one element, and there is no `NestedResult(s)` call.
-/
namespace Csproto.C14
open Csproto


inductive SH where
  | nilRes
  | live (input : Bytes)
  | closed
deriving DecidableEq

structure Spec where
  root : LDec
  handles : List (Nat × SH)
  justClosed : Option Nat

def Spec.init (root : LDec) : Spec := { root := root, handles := [], justClosed := none }

def Spec.handle? (sp : Spec) (h : Nat) : Option SH := (sp.handles.find? (·.1 = h)).map (·.2)
def Spec.setHandle (sp : Spec) (h : Nat) (v : SH) : Spec :=
  { sp with handles := (h, v) :: sp.handles.filter (·.1 ≠ h) }

/-- what a brand-new result object holds after decoding `input` -/
def fresh (root : LDec) (input : Bytes) : Res (List FD) :=
  decodeInto root.flat (cleanFds root.flat.length) input

def tagsOf (root : LDec) (fds : List FD) : List (Nat × Bool) :=
  (root.flat.zip fds).map fun (t, fd) => (t, !fd.data.isEmpty)

/-- the specification: answers are computed from the handle's own input alone -/
def Spec.step (sp : Spec) : LOp → Spec × LOut
  | .decode h input _ =>
    if input.isEmpty then ({ sp.setHandle h .nilRes with justClosed := none }, .nil) else
    match fresh sp.root input with
    | .ok _ => ({ sp.setHandle h (.live input) with justClosed := none }, .ok)
    | .err => ({ sp with justClosed := none }, .err)
    | .panic => ({ sp with justClosed := none }, .panic)
  | .acc h path a =>
    ({ sp with justClosed := none },
     match sp.handle? h with
     | none => .badHandle
     | some r =>
       match path with
       | [tag] =>
         match r with
         | .nilRes => .ans .notDefined
         | .live input =>
           match fresh sp.root input with
           | .ok fds => .ans (accessTag sp.root fds tag.natAbs a)
           | _ => .ans .panic
         | .closed => .badHandle
       | _ => .ans .err)
  | .range h =>
    ({ sp with justClosed := none },
     match sp.handle? h with
     | none => .badHandle
     | some .nilRes => .tags []
     | some (.live input) =>
       match fresh sp.root input with
       | .ok fds => .tags (tagsOf sp.root fds)
       | _ => .panic
     | some .closed => .badHandle)
  | .close h =>
    match sp.handle? h with
    | none => ({ sp with justClosed := none }, .badHandle)
    | some .nilRes => ({ sp with justClosed := none }, .ok)
    | some (.live _) => ({ sp.setHandle h .closed with justClosed := some h }, .ok)
    | some .closed => (sp, .ok)
  | .nested _ _ _ _ => (sp, .badHandle)
  | .nesteds _ _ _ _ => (sp, .badHandle)

/-- what the environment guarantees about the pool's choice: a "new" object is new, a reused one
    comes out of the pool -/
def ChoiceOK (s : LState) : Choice → Prop
  | .new id => s.obj? id = none
  | .reuse id => id ∈ s.pool []

/-- the API contract for one operation of a root-result history -/
def OpOK (s : LState) (sp : Spec) : LOp → Prop
  | .decode _ input c => input.isEmpty = false → ChoiceOK s c
  | .acc h path _ => path.length ≤ 1 ∧ sp.handle? h ≠ some .closed
  | .range h => sp.handle? h ≠ some .closed
  | .close h => sp.handle? h = some .closed → sp.justClosed = some h
  | .nested _ _ _ _ => False
  | .nesteds _ _ _ _ => False


def outputs (s : LState) : List LOp → List LOut
  | [] => []
  | op :: ops => (s.step op).2 :: outputs (s.step op).1 ops

def Spec.outputs (sp : Spec) : List LOp → List LOut
  | [] => []
  | op :: ops => (sp.step op).2 :: Spec.outputs (sp.step op).1 ops

/-- the history keeps to the API contract at every step (and the pool's choices are choices it can make) -/
def HistOK (s : LState) (sp : Spec) : List LOp → Prop
  | [] => True
  | op :: ops => OpOK s sp op ∧ HistOK (s.step op).1 (sp.step op).1 ops

end Csproto.C14
