import Csproto.Props.C03SourcePacked
import Csproto.Props.C03
/-
  C03 for the SOURCE, the cursor clause: after every call of the translated readers the cursor is inside the buffer
  (`*_inrange`): the refinement (`Agrees`, `Refines`) puts it where the model's step puts its own, or leaves it, and
  `C03.step_safe` keeps the model's inside (`model_inrange`).
-/
set_option linter.unusedSectionVars false
namespace Csproto.C03.Source
open Csproto Csproto.Generated.WireFuncs Csproto.Bridge Csproto.Bridge.WireFuncs Csproto.Bridge.DecoderFuncs Csproto.Bridge.SkipFuncs
open Csproto.Bridge.PackedFuncs Csproto.Bridge.SeekFuncs

theorem model_inrange (p : Bytes) (off ks ke : BitVec 64) (fast : Bool) (hoff : off.toNat ≤ p.length) (op : DecOp) :
    ((decOf p off ks ke fast).step op).1.off ≤ p.length := by
  have hs := C03.step_safe (decOf p off ks ke fast) (by simpa [Dec.Inv, decOf, Dec.len] using hoff) op
  have h1 := hs.inv
  have h2 := hs.sameBuf
  unfold Dec.Inv Dec.len at h1
  rw [h2] at h1
  simpa [decOf] using h1

theorem _root_.Csproto.Bridge.DecoderFuncs.Agrees.inrange {σ ρ α : Type} {view : σ → Recv} {val : ρ → α} {mk : α → Item} {d : Recv}
    {fast : Bool} {op : DecOp} {out : Go.Out σ (ρ × Go.Err)} (h : Agrees view val mk d fast op out)
    (hoff : d.off.toNat ≤ d.frame.p.length) : ∃ r e s, out = .ret (r, e) s ∧ (view s).off.toNat ≤ d.frame.p.length :=
  h.off_le (model_inrange d.frame.p d.off d.frame.ks d.frame.ke fast hoff op) hoff

theorem _root_.Csproto.Bridge.PackedFuncs.Refines.inrange {σ ε α : Type} {view : σ → Cur ε} {conv : ε → α} {mk : List α → Item}
    {fr : Frame} {off : BitVec 64} {fast : Bool} {op : DecOp} {out : Go.Out σ (List ε × Go.Err)}
    (h : Refines view conv mk fr ((decOf fr.p off fr.ks fr.ke fast).step op) out) (hoff : off.toNat ≤ fr.p.length) :
    ∃ R e s, out = .ret (R, e) s ∧ (view s).off.toNat ≤ fr.p.length :=
  h.off_le (model_inrange fr.p off fr.ks fr.ke fast hoff op)

variable (fuel : Nat) (hf : 11 ≤ fuel) (p : Bytes) (off mode ks ke : BitVec 64)
include hf

theorem DecodeUInt64_inrange (hp : p.length < 2 ^ 63) (hoff : off.toNat ≤ p.length) :
    ∃ r e s, Decoder_DecodeUInt64 fuel p off mode ks ke = .ret (r, e) s ∧ s.d_offset.toNat ≤ p.length :=
  (DecodeUInt64_sim fuel p off mode ks ke false hp hoff hf).inrange hoff
theorem DecodeInt64_inrange (hp : p.length < 2 ^ 63) (hoff : off.toNat ≤ p.length) :
    ∃ r e s, Decoder_DecodeInt64 fuel p off mode ks ke = .ret (r, e) s ∧ s.d_offset.toNat ≤ p.length :=
  (DecodeInt64_sim fuel p off mode ks ke false hp hoff hf).inrange hoff
theorem DecodeUInt32_inrange (hp : p.length < 2 ^ 63) (hoff : off.toNat ≤ p.length) :
    ∃ r e s, Decoder_DecodeUInt32 fuel p off mode ks ke = .ret (r, e) s ∧ s.d_offset.toNat ≤ p.length :=
  (DecodeUInt32_sim fuel p off mode ks ke false hp hoff hf).inrange hoff
theorem DecodeInt32_inrange (hp : p.length < 2 ^ 63) (hoff : off.toNat ≤ p.length) :
    ∃ r e s, Decoder_DecodeInt32 fuel p off mode ks ke = .ret (r, e) s ∧ s.d_offset.toNat ≤ p.length :=
  (DecodeInt32_sim fuel p off mode ks ke false hp hoff hf).inrange hoff
theorem DecodeSInt32_inrange (hp : p.length < 2 ^ 63) (hoff : off.toNat ≤ p.length) :
    ∃ r e s, Decoder_DecodeSInt32 fuel p off mode ks ke = .ret (r, e) s ∧ s.d_offset.toNat ≤ p.length :=
  (DecodeSInt32_sim fuel p off mode ks ke false hp hoff hf).inrange hoff
theorem DecodeSInt64_inrange (hp : p.length < 2 ^ 63) (hoff : off.toNat ≤ p.length) :
    ∃ r e s, Decoder_DecodeSInt64 fuel p off mode ks ke = .ret (r, e) s ∧ s.d_offset.toNat ≤ p.length :=
  (DecodeSInt64_sim fuel p off mode ks ke false hp hoff hf).inrange hoff
theorem DecodeFixed32_inrange (hp : p.length < 2 ^ 63) (hoff : off.toNat ≤ p.length) :
    ∃ r e s, Decoder_DecodeFixed32 fuel p off mode ks ke = .ret (r, e) s ∧ s.d_offset.toNat ≤ p.length :=
  (DecodeFixed32_sim fuel p off mode ks ke false hp hoff).inrange hoff
theorem DecodeFixed64_inrange (hp : p.length < 2 ^ 63) (hoff : off.toNat ≤ p.length) :
    ∃ r e s, Decoder_DecodeFixed64 fuel p off mode ks ke = .ret (r, e) s ∧ s.d_offset.toNat ≤ p.length :=
  (DecodeFixed64_sim fuel p off mode ks ke false hp hoff).inrange hoff
theorem DecodeBool_inrange (hp : p.length < 2 ^ 63) (hoff : off.toNat ≤ p.length) :
    ∃ r e s, Decoder_DecodeBool fuel p off mode ks ke = .ret (r, e) s ∧ s.d_offset.toNat ≤ p.length :=
  (DecodeBool_sim fuel p off mode ks ke false hp hoff hf).inrange hoff
theorem DecodeBytes_inrange (hp : p.length < 2 ^ 62) (hoff : off.toNat ≤ p.length) :
    ∃ r e s, Decoder_DecodeBytes fuel p off mode ks ke = .ret (r, e) s ∧ s.d_offset.toNat ≤ p.length :=
  (DecodeBytes_sim fuel hf p off mode ks ke false hp hoff).inrange hoff
theorem Skip_inrange (tag wt : BitVec 64) (hp : p.length < 2 ^ 62) (hoff : off.toNat ≤ p.length) (hks : ks.toNat ≤ p.length) (hke : ke.toNat ≤ p.length) :
    ∃ r e s, Decoder_Skip fuel p off mode ks ke tag wt = .ret (r, e) s ∧ s.d_offset.toNat ≤ p.length :=
  (Skip_sim fuel hf p off mode ks ke tag wt hp hoff hks hke).inrange hoff
theorem DecodePackedUint64_inrange (hp : p.length < 2 ^ 62) (hfl : p.length + 2 ≤ fuel) (hoff : off.toNat ≤ p.length) :
    ∃ r e s, Decoder_DecodePackedUint64 fuel p off mode ks ke = .ret (r, e) s ∧ s.d_offset.toNat ≤ p.length :=
  (DecodePackedUint64_sim fuel hf p off mode ks ke false hp hfl hoff).inrange hoff
theorem DecodePackedInt64_inrange (hp : p.length < 2 ^ 62) (hfl : p.length + 2 ≤ fuel) (hoff : off.toNat ≤ p.length) :
    ∃ r e s, Decoder_DecodePackedInt64 fuel p off mode ks ke = .ret (r, e) s ∧ s.d_offset.toNat ≤ p.length :=
  (DecodePackedInt64_sim fuel hf p off mode ks ke false hp hfl hoff).inrange hoff
theorem DecodePackedUint32_inrange (hp : p.length < 2 ^ 62) (hfl : p.length + 2 ≤ fuel) (hoff : off.toNat ≤ p.length) :
    ∃ r e s, Decoder_DecodePackedUint32 fuel p off mode ks ke = .ret (r, e) s ∧ s.d_offset.toNat ≤ p.length :=
  (DecodePackedUint32_sim fuel hf p off mode ks ke false hp hfl hoff).inrange hoff
theorem DecodePackedInt32_inrange (hp : p.length < 2 ^ 62) (hfl : p.length + 2 ≤ fuel) (hoff : off.toNat ≤ p.length) :
    ∃ r e s, Decoder_DecodePackedInt32 fuel p off mode ks ke = .ret (r, e) s ∧ s.d_offset.toNat ≤ p.length :=
  (DecodePackedInt32_sim fuel hf p off mode ks ke false hp hfl hoff).inrange hoff
theorem DecodePackedSint64_inrange (hp : p.length < 2 ^ 62) (hfl : p.length + 2 ≤ fuel) (hoff : off.toNat ≤ p.length) :
    ∃ r e s, Decoder_DecodePackedSint64 fuel p off mode ks ke = .ret (r, e) s ∧ s.d_offset.toNat ≤ p.length :=
  (DecodePackedSint64_sim fuel hf p off mode ks ke false hp hfl hoff).inrange hoff
theorem DecodePackedSint32_inrange (hp : p.length < 2 ^ 62) (hfl : p.length + 2 ≤ fuel) (hoff : off.toNat ≤ p.length) :
    ∃ r e s, Decoder_DecodePackedSint32 fuel p off mode ks ke = .ret (r, e) s ∧ s.d_offset.toNat ≤ p.length :=
  (DecodePackedSint32_sim fuel hf p off mode ks ke false hp hfl hoff).inrange hoff
theorem DecodePackedFixed64_inrange (hp : p.length < 2 ^ 62) (hfl : p.length + 2 ≤ fuel) (hoff : off.toNat ≤ p.length) :
    ∃ r e s, Decoder_DecodePackedFixed64 fuel p off mode ks ke = .ret (r, e) s ∧ s.d_offset.toNat ≤ p.length :=
  (DecodePackedFixed64_sim fuel hf p off mode ks ke false hp hfl hoff).inrange hoff
theorem DecodePackedFixed32_inrange (hp : p.length < 2 ^ 62) (hfl : p.length + 2 ≤ fuel) (hoff : off.toNat ≤ p.length) :
    ∃ r e s, Decoder_DecodePackedFixed32 fuel p off mode ks ke = .ret (r, e) s ∧ s.d_offset.toNat ≤ p.length :=
  (DecodePackedFixed32_sim fuel hf p off mode ks ke false hp hfl hoff).inrange hoff
theorem DecodePackedBool_inrange (hp : p.length < 2 ^ 62) (hfl : p.length + 2 ≤ fuel) (hoff : off.toNat ≤ p.length) :
    ∃ r e s, Decoder_DecodePackedBool fuel p off mode ks ke = .ret (r, e) s ∧ s.d_offset.toNat ≤ p.length :=
  (DecodePackedBool_sim fuel hf p off mode ks ke false hp hfl hoff).inrange hoff

end Csproto.C03.Source
