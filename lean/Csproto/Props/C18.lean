import Csproto.Model.Shim
import Csproto.Bridge.Shim
/-
  C18 — JSON adapters round-trip and honour their options on every runtime.

  The three runtimes' JSON codecs are abstract (trusted; the harness compares the adapters with them on
  every case).  What is modelled and proved is csproto's part of json.go:

  * the option record and its five constructors (`apply`): each constructor sets exactly its own field
    and options compose in call order, last one wins (`setter_*`, bridge `jsonSetters_ok`);
  * the translation of the record into each runtime's option struct (`toMarshal`, `toUnmarshalV2`, `toUnmarshalV1`):
    every documented option reaches every runtime that has it, nothing else is set
    (`wiring_*`, bridge `jsonWiring_ok` — the table is regenerated from the composite literals of json.go);
  * the dispatch: a `json.Marshaler` first, then google v2, then the v1 `Message` interface, then gogo
    (bridge `jsonProbes_ok`); `gogo_takes_v1_arm`: the v1 and gogo `Message` interfaces have the same
    method set, so a gogo message is served by the golang jsonpb arm (the gogo arm is unreachable) —
    whether that is observable is decided by the oracle against gogo's own codec;
  * nil handling (`nil_marshals_to_nothing`, `nil_unmarshal_is_error`).
-/
namespace Csproto.C18
open Csproto

structure JOpts where
  indent : String := ""
  useEnumNumbers : Bool := false
  emitZeroValues : Bool := false
  allowUnknownFields : Bool := false
  allowPartial : Bool := false
deriving DecidableEq, Repr

inductive Setter where
  | indent (s : String) | enumNumbers (b : Bool) | zeroValues (b : Bool) | allowUnknown (b : Bool) | allowPartial (b : Bool)

def Setter.apply (o : JOpts) : Setter → JOpts
  | .indent s => { o with indent := s }
  | .enumNumbers b => { o with useEnumNumbers := b }
  | .zeroValues b => { o with emitZeroValues := b }
  | .allowUnknown b => { o with allowUnknownFields := b }
  | .allowPartial b => { o with allowPartial := b }

/-- `for _, o := range opts { o(&m.opts) }` on the zero value -/
def build (ss : List Setter) : JOpts := ss.foldl Setter.apply {}

/-- what each runtime's marshal options receive: (indent, enums as numbers, zero values) -/
def toMarshal (o : JOpts) : String × Bool × Bool := (o.indent, o.useEnumNumbers, o.emitZeroValues)
/-- protojson.UnmarshalOptions: (AllowPartial, DiscardUnknown); the jsonpb unmarshalers: AllowUnknownFields -/
def toUnmarshalV2 (o : JOpts) : Bool × Bool := (o.allowPartial, o.allowUnknownFields)
def toUnmarshalV1 (o : JOpts) : Bool := o.allowUnknownFields

theorem defaults : toMarshal (build []) = ("", false, false) ∧ toUnmarshalV2 (build []) = (false, false) ∧
    toUnmarshalV1 (build []) = false := ⟨rfl, rfl, rfl⟩

theorem setter_indent (o : JOpts) (s : String) :
    toMarshal ((Setter.indent s).apply o) = (s, o.useEnumNumbers, o.emitZeroValues) ∧
    toUnmarshalV2 ((Setter.indent s).apply o) = toUnmarshalV2 o ∧ toUnmarshalV1 ((Setter.indent s).apply o) = toUnmarshalV1 o :=
  ⟨rfl, rfl, rfl⟩
theorem setter_enumNumbers (o : JOpts) (b : Bool) :
    toMarshal ((Setter.enumNumbers b).apply o) = (o.indent, b, o.emitZeroValues) ∧
    toUnmarshalV2 ((Setter.enumNumbers b).apply o) = toUnmarshalV2 o ∧ toUnmarshalV1 ((Setter.enumNumbers b).apply o) = toUnmarshalV1 o :=
  ⟨rfl, rfl, rfl⟩
theorem setter_zeroValues (o : JOpts) (b : Bool) :
    toMarshal ((Setter.zeroValues b).apply o) = (o.indent, o.useEnumNumbers, b) ∧
    toUnmarshalV2 ((Setter.zeroValues b).apply o) = toUnmarshalV2 o ∧ toUnmarshalV1 ((Setter.zeroValues b).apply o) = toUnmarshalV1 o :=
  ⟨rfl, rfl, rfl⟩
theorem setter_allowUnknown (o : JOpts) (b : Bool) :
    toMarshal ((Setter.allowUnknown b).apply o) = toMarshal o ∧
    toUnmarshalV2 ((Setter.allowUnknown b).apply o) = (o.allowPartial, b) ∧ toUnmarshalV1 ((Setter.allowUnknown b).apply o) = b :=
  ⟨rfl, rfl, rfl⟩
theorem setter_allowPartial (o : JOpts) (b : Bool) :
    toMarshal ((Setter.allowPartial b).apply o) = toMarshal o ∧
    toUnmarshalV2 ((Setter.allowPartial b).apply o) = (b, o.allowUnknownFields) ∧ toUnmarshalV1 ((Setter.allowPartial b).apply o) = toUnmarshalV1 o :=
  ⟨rfl, rfl, rfl⟩

theorem build_snoc (ss : List Setter) (s : Setter) : build (ss ++ [s]) = s.apply (build ss) := by
  simp [build, List.foldl_append]

/-- capability vector of the wrapped value, as the four probes see it -/
structure JCaps where
  isNil : Bool           -- nil interface or nil pointer
  jsonMarshaler : Bool   -- implements json.Marshaler / json.Unmarshaler itself
  isV2 : Bool
  isV1Iface : Bool       -- Reset/String/ProtoMessage (golang v1 and gogo messages alike)
deriving DecidableEq, Repr

inductive Arm where
  | nothing | error | own | v2 | v1 | gogo | unsupported
deriving DecidableEq, Repr

def marshalArm (c : JCaps) : Arm :=
  if c.isNil then .nothing
  else if c.jsonMarshaler then .own
  else if c.isV2 then .v2
  else if c.isV1Iface then .v1
  else if c.isV1Iface then .gogo      -- same method set: never reached
  else .unsupported

def unmarshalArm (c : JCaps) : Arm :=
  if c.isNil then .error
  else if c.jsonMarshaler then .own
  else if c.isV2 then .v2
  else if c.isV1Iface then .v1
  else if c.isV1Iface then .gogo
  else .unsupported

theorem nil_marshals_to_nothing (c : JCaps) (h : c.isNil = true) : marshalArm c = .nothing := by simp [marshalArm, h]
theorem nil_unmarshal_is_error (c : JCaps) (h : c.isNil = true) : unmarshalArm c = .error := by simp [unmarshalArm, h]
theorem own_codec_first (c : JCaps) (h : c.isNil = false) (hj : c.jsonMarshaler = true) :
    marshalArm c = .own ∧ unmarshalArm c = .own := by simp [marshalArm, unmarshalArm, h, hj]
theorem v2_before_v1 (c : JCaps) (h : c.isNil = false) (hj : c.jsonMarshaler = false) (h2 : c.isV2 = true) :
    marshalArm c = .v2 ∧ unmarshalArm c = .v2 := by simp [marshalArm, unmarshalArm, h, hj, h2]
/-- D3: the gogo arm cannot be reached — a gogo message satisfies the v1 interface probed before it -/
theorem gogo_takes_v1_arm (c : JCaps) : marshalArm c ≠ .gogo ∧ unmarshalArm c ≠ .gogo := by
  -- the gogo test repeats the v1 test in the `else` of the v1 test; checked on all sixteen capability vectors
  obtain ⟨n, j, v2, v1⟩ := c
  revert n j v2 v1
  decide
theorem every_value_has_an_arm (c : JCaps) (h : c.isNil = false) :
    marshalArm c ∈ [Arm.own, .v2, .v1, .unsupported] ∧ unmarshalArm c ∈ [Arm.own, .v2, .v1, .unsupported] := by
  obtain ⟨n, j, v2, v1⟩ := c
  -- the eight non-nil capability vectors, one by one
  obtain rfl : n = false := h
  revert j v2 v1
  decide

theorem wiring_fact : Generated.jsonWiring = Bridge.expectedWiring := Bridge.jsonWiring_ok
theorem setters_fact : Generated.jsonSetters.map (·.2) = ["indent", "useEnumNumbers", "emitZeroValues", "allowUnknownFields", "allowPartial"] := by
  rw [Bridge.jsonSetters_ok]; rfl
theorem probes_fact : Generated.jsonMarshalProbes.length = 4 ∧ Generated.jsonUnmarshalProbes.length = 4 := by
  rw [Bridge.jsonProbes_ok.1, Bridge.jsonProbes_ok.2]; exact ⟨rfl, rfl⟩

/-- in json.go every marshal option struct is given the three marshal options, the v2 unmarshal options both flags,
    the jsonpb ones one: the fields that `toMarshal`, `toUnmarshalV2`, `toUnmarshalV1` read (the correspondence
    between those three and the table is by inspection) -/
theorem wiring_complete :
    (∀ rt ∈ ["google.golang.org/protobuf/encoding/protojson.MarshalOptions", "github.com/golang/protobuf/jsonpb.Marshaler",
              "github.com/gogo/protobuf/jsonpb.Marshaler"],
      (Generated.jsonWiring.filter (fun w => w.1 == rt)).map (·.2.2) = ["indent", "useEnumNumbers", "emitZeroValues"]) ∧
    (Generated.jsonWiring.filter (fun w => w.1 == "google.golang.org/protobuf/encoding/protojson.UnmarshalOptions")).map (·.2.2)
      = ["allowPartial", "allowUnknownFields"] ∧
    (∀ rt ∈ ["github.com/golang/protobuf/jsonpb.Unmarshaler", "github.com/gogo/protobuf/jsonpb.Unmarshaler"],
      (Generated.jsonWiring.filter (fun w => w.1 == rt)).map (·.2.2) = ["allowUnknownFields"]) := by
  decide +kernel

/-- non-vacuity -/
example : toMarshal (build [.indent "  ", .enumNumbers true, .indent "\t"]) = ("\t", true, false) := by decide +kernel

end Csproto.C18
