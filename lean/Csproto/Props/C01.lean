import Csproto.Proofs.Enc
import Csproto.Proofs.Dec
/-
  C01 — Wire primitives round-trip exactly and sizes are exact.

  Quantification: every kind, every value of the kind's machine domain, every field number
  1 … 2^29-1, both decoder modes (the decoder state `d` is arbitrary, so in particular `d.fast` is),
  every prefix and suffix around the field.
-/
namespace Csproto.C01
open Csproto

/-- A field as the user of the hand-written codec sees it: Go method family + value. -/
inductive FieldVal where
  | bool (b : Bool)
  | int32 (i : Int) | int64 (i : Int) | uint32 (n : Nat) | uint64 (n : Nat)
  | sint32 (i : Int) | sint64 (i : Int)
  | fixed32 (n : Nat) | fixed64 (n : Nat) | float32 (bits : Nat) | float64 (bits : Nat)
  | str (b : Bytes) | bytes (b : Bytes)
  | pBool (vs : List Bool)
  | pInt32 (vs : List Int) | pInt64 (vs : List Int) | pUint32 (vs : List Nat) | pUint64 (vs : List Nat)
  | pSint32 (vs : List Int) | pSint64 (vs : List Int)
  | pFixed32 (vs : List Nat) | pFixed64 (vs : List Nat) | pFloat32 (vs : List Nat) | pFloat64 (vs : List Nat)

/-- the kind's domain (machine ranges; float values are their IEEE bit patterns) -/
def FieldVal.Valid : FieldVal → Prop
  | .bool _ => True
  | .int32 i | .sint32 i => InI32 i
  | .int64 i | .sint64 i => InI64 i
  | .uint32 n | .fixed32 n | .float32 n => n < two32
  | .uint64 n | .fixed64 n | .float64 n => n < two64
  | .str b | .bytes b => b.length ≤ maxFieldLen
  | .pBool vs => vs ≠ [] ∧ vs.length ≤ maxFieldLen
  | .pInt32 vs | .pSint32 vs => vs ≠ [] ∧ (∀ v ∈ vs, InI32 v) ∧ vs.length * 10 < two64
  | .pInt64 vs | .pSint64 vs => vs ≠ [] ∧ (∀ v ∈ vs, InI64 v) ∧ vs.length * 10 < two64
  | .pUint32 vs | .pFixed32 vs | .pFloat32 vs => vs ≠ [] ∧ (∀ v ∈ vs, v < two32) ∧ vs.length * 10 < two64
  | .pUint64 vs | .pFixed64 vs | .pFloat64 vs => vs ≠ [] ∧ (∀ v ∈ vs, v < two64) ∧ vs.length * 10 < two64

/-- the encoder call, with the conversion the Go method applies to its argument -/
def FieldVal.encOp (tag : Nat) : FieldVal → EncOp
  | .bool b => .bool tag b
  | .int32 i | .int64 i => .varint tag (toU64 i)
  | .uint32 n | .uint64 n => .varint tag n
  | .sint32 i => .zigzag32 tag i
  | .sint64 i => .zigzag64 tag i
  | .fixed32 n | .float32 n => .fixed32 tag n
  | .fixed64 n | .float64 n => .fixed64 tag n
  | .str b | .bytes b => .bytes tag b
  | .pBool vs => .packedBool tag vs
  | .pInt32 vs | .pInt64 vs => .packedVarint tag (vs.map toU64)
  | .pUint32 vs | .pUint64 vs => .packedVarint tag vs
  | .pSint32 vs => .packedZigzag32 tag vs
  | .pSint64 vs => .packedZigzag64 tag vs
  | .pFixed32 vs | .pFloat32 vs => .packedFixed32 tag vs
  | .pFixed64 vs | .pFloat64 vs => .packedFixed64 tag vs

def FieldVal.wt : FieldVal → Nat
  | .bool _ | .int32 _ | .int64 _ | .uint32 _ | .uint64 _ | .sint32 _ | .sint64 _ => wtVarint
  | .fixed32 _ | .float32 _ => wtFixed32
  | .fixed64 _ | .float64 _ => wtFixed64
  | _ => wtLen

def FieldVal.decOp : FieldVal → DecOp
  | .bool _ => .bool | .int32 _ => .int32 | .int64 _ => .int64 | .uint32 _ => .uint32
  | .uint64 _ => .uint64 | .sint32 _ => .sint32 | .sint64 _ => .sint64 | .fixed32 _ => .fixed32
  | .fixed64 _ => .fixed64 | .float32 _ => .float32 | .float64 _ => .float64 | .str _ => .string
  | .bytes _ => .bytes | .pBool _ => .packedBool | .pInt32 _ => .packedInt32 | .pInt64 _ => .packedInt64
  | .pUint32 _ => .packedUint32 | .pUint64 _ => .packedUint64 | .pSint32 _ => .packedSint32
  | .pSint64 _ => .packedSint64 | .pFixed32 _ => .packedFixed32 | .pFixed64 _ => .packedFixed64
  | .pFloat32 _ => .packedFloat32 | .pFloat64 _ => .packedFloat64

/-- the value the decoder must hand back -/
def FieldVal.item : FieldVal → Item
  | .bool b => .bool b
  | .int32 i | .int64 i | .sint32 i | .sint64 i => .int i
  | .uint32 n | .uint64 n | .fixed32 n | .fixed64 n | .float32 n | .float64 n => .nat n
  | .str b | .bytes b => .bytes b
  | .pBool vs => .bools vs
  | .pInt32 vs | .pInt64 vs | .pSint32 vs | .pSint64 vs => .ints vs
  | .pUint32 vs | .pUint64 vs | .pFixed32 vs | .pFixed64 vs | .pFloat32 vs | .pFloat64 vs => .nats vs

/-- size predicted **only** from the exported size helpers, the way callers and the generated code
    pre-size a buffer -/
def FieldVal.predicted (tag : Nat) : FieldVal → Nat
  | .bool _ => sizeOfTagKey tag + 1
  | .int32 i | .int64 i => sizeOfTagKey tag + sizeOfVarint (toU64 i)
  | .uint32 n | .uint64 n => sizeOfTagKey tag + sizeOfVarint n
  | .sint32 i | .sint64 i => sizeOfTagKey tag + sizeOfZigZag i
  | .fixed32 _ | .float32 _ => sizeOfTagKey tag + 4
  | .fixed64 _ | .float64 _ => sizeOfTagKey tag + 8
  | .str b | .bytes b => sizeOfTagKey tag + sizeOfVarint b.length + b.length
  | .pBool vs => sizeOfTagKey tag + sizeOfVarint vs.length + vs.length
  | .pInt32 vs | .pInt64 vs =>
      let n := sumSizes sizeOfVarint (vs.map toU64); sizeOfTagKey tag + sizeOfVarint n + n
  | .pUint32 vs | .pUint64 vs =>
      let n := sumSizes sizeOfVarint vs; sizeOfTagKey tag + sizeOfVarint n + n
  | .pSint32 vs | .pSint64 vs =>
      let n := sumSizes sizeOfZigZag vs; sizeOfTagKey tag + sizeOfVarint n + n
  | .pFixed32 vs | .pFloat32 vs => sizeOfTagKey tag + sizeOfVarint (vs.length * 4) + vs.length * 4
  | .pFixed64 vs | .pFloat64 vs => sizeOfTagKey tag + sizeOfVarint (vs.length * 8) + vs.length * 8

def ValidTag (tag : Nat) : Prop := 1 ≤ tag ∧ tag ≤ maxTagValue

/-- `SizeOfVarint` = bytes written by `EncodeVarint`, for every value -/
theorem sizeOfVarint_exact (v : Nat) : sizeOfVarint v = (encVarint v).length :=
  sizeOfVarint_eq_length v

/-- `SizeOfTagKey` = bytes written by `EncodeTag`, for every field number and wire type -/
theorem sizeOfTagKey_exact (tag wt : Nat) (ht : ValidTag tag) (hw : wt < 8) :
    sizeOfTagKey tag = (encTag tag wt).length :=
  sizeOfTagKey_eq_length ht.2 hw

/-- `SizeOfZigZag` = bytes written by `EncodeZigZag32/64` (the generated code sizes 32-bit zig-zag
    values through the 64-bit helper after sign extension) -/
theorem sizeOfZigZag_exact (i : Int) :
    sizeOfZigZag i = (encZigZag64 i).length ∧ sizeOfZigZag i = (encZigZag32 i).length := by
  unfold sizeOfZigZag encZigZag64 encZigZag32
  exact ⟨sizeOfVarint_eq_length _, sizeOfVarint_eq_length _⟩

theorem sumSizes_flatten {α} (f : α → Nat) (enc : α → Bytes) (h : ∀ v, f v = (enc v).length) (vs : List α) :
    sumSizes f vs = ((vs.map enc).flatten).length := by
  unfold sumSizes
  induction vs with
  | nil => simp
  | cons v vs ih => simp [h v, ih]

theorem flatten_const_length {α} (enc : α → Bytes) (k : Nat) (h : ∀ v, (enc v).length = k) (vs : List α) :
    ((vs.map enc).flatten).length = vs.length * k := by
  induction vs with
  | nil => simp
  | cons v vs ih => simp [h v, ih, Nat.add_mul]; omega

/-! Every kind reads and writes its values through one of nine element codecs (reader, encoder, domain);
  a field is the key followed by one encoded value, by a length-prefixed byte string, or by a
  length-prefixed run of encoded values. -/

/-- an element reader and encoder that agree on a domain -/
structure Codec (α : Type) where
  elem : Bytes → Res (α × Nat)
  enc : α → Bytes
  dom : α → Prop
  reads : ∀ v, dom v → ∀ rest, elem (enc v ++ rest) = .ok (v, (enc v).length)
  pos : ∀ v, 0 < (enc v).length
  /-- what bounds a packed body by ten times its element count (no varint is longer than ten bytes) -/
  short : ∀ v, dom v → (enc v).length ≤ 10

def cBool : Codec Bool := ⟨elBool, fun b => [boolByte b], fun _ => True, fun b _ => elBool_enc b,
  fun _ => Nat.one_pos, fun _ _ => (by decide : 1 ≤ 10)⟩
def cInt32 : Codec Int := ⟨elInt32, fun i => encVarint (toU64 i), InI32, elInt32_enc,
  fun _ => encVarint_length_pos _, fun i _ => encVarint_length_le_10 (toU64_lt i)⟩
def cInt64 : Codec Int := ⟨elInt64, fun i => encVarint (toU64 i), InI64, elInt64_enc,
  fun _ => encVarint_length_pos _, fun i _ => encVarint_length_le_10 (toU64_lt i)⟩
def cUint32 : Codec Nat := ⟨elUint32, encVarint, (· < two32), elUint32_enc,
  fun _ => encVarint_length_pos _, fun _ h => encVarint_length_le_10 (Nat.lt_trans h (by decide))⟩
def cUint64 : Codec Nat := ⟨elVarint, encVarint, (· < two64), elVarint_enc,
  fun _ => encVarint_length_pos _, fun _ h => encVarint_length_le_10 h⟩
def cSint32 : Codec Int := ⟨elSint32, encZigZag32, InI32, elSint32_enc,
  fun _ => encVarint_length_pos _, fun _ h => encVarint_length_le_10 (zigzag_lt_two64 h.toI64)⟩
def cSint64 : Codec Int := ⟨elSint64, encZigZag64, InI64, elSint64_enc,
  fun _ => encVarint_length_pos _, fun _ h => encVarint_length_le_10 (zigzag_lt_two64 h)⟩
def cFixed32 : Codec Nat := ⟨elFixed32, encFixed32, (· < two32), elFixed32_enc,
  fun _ => (by decide : 0 < 4), fun _ _ => (by decide : 4 ≤ 10)⟩
def cFixed64 : Codec Nat := ⟨elFixed64, encFixed64, (· < two64), elFixed64_enc,
  fun _ => (by decide : 0 < 8), fun _ _ => (by decide : 8 ≤ 10)⟩

/-- a packed payload: length prefix, then the elements back to back -/
def packedBody {α} (enc : α → Bytes) (vs : List α) : Bytes :=
  encVarint ((vs.map enc).flatten).length ++ (vs.map enc).flatten

def FieldVal.body : FieldVal → Bytes
  | .bool b => cBool.enc b
  | .int32 i | .int64 i => cInt64.enc i
  | .uint32 n | .uint64 n => cUint64.enc n
  | .sint32 i => cSint32.enc i
  | .sint64 i => cSint64.enc i
  | .fixed32 n | .float32 n => cFixed32.enc n
  | .fixed64 n | .float64 n => cFixed64.enc n
  | .str b | .bytes b => encVarint b.length ++ b
  | .pBool vs => packedBody cBool.enc vs
  | .pInt32 vs | .pInt64 vs => packedBody cInt64.enc vs
  | .pUint32 vs | .pUint64 vs => packedBody cUint64.enc vs
  | .pSint32 vs => packedBody cSint32.enc vs
  | .pSint64 vs => packedBody cSint64.enc vs
  | .pFixed32 vs | .pFloat32 vs => packedBody cFixed32.enc vs
  | .pFixed64 vs | .pFloat64 vs => packedBody cFixed64.enc vs

theorem map_singleton_flatten {α β} (f : α → β) (vs : List α) : (vs.map (fun b => [f b])).flatten = vs.map f := by
  induction vs with
  | nil => rfl
  | cons v vs ih => simp [ih]

/-- what a packed writer emits for a non-empty list whose declared length `N` is the length of the elements `F` -/
theorem packedWire_eq {α} {vs : List α} (hne : vs ≠ []) (t N : Nat) (F : Bytes) (hN : N = F.length) :
    (if vs.isEmpty then [] else encTag t wtLen ++ encVarint N ++ F) = encTag t wtLen ++ (encVarint F.length ++ F) := by
  rw [if_neg (by simpa using hne), hN, List.append_assoc]

theorem wire_eq (fv : FieldVal) (tag : Nat) (hv : fv.Valid) :
    (fv.encOp tag).wire = encTag tag fv.wt ++ fv.body := by
  have varints := sumSizes_flatten sizeOfVarint encVarint sizeOfVarint_eq_length
  cases fv with
  | pBool vs =>
    exact (packedWire_eq hv.1 tag _ _ (by rw [List.length_map])).trans
      (by rw [← map_singleton_flatten boolByte vs]; rfl)
  | pInt32 vs | pInt64 vs =>
    refine (packedWire_eq (by simpa using hv.1) tag _ _ (varints _)).trans ?_
    rw [List.map_map]; rfl
  | pUint32 vs | pUint64 vs => exact packedWire_eq hv.1 tag _ _ (varints _)
  | pSint32 vs => exact packedWire_eq hv.1 tag _ _ (sumSizes_flatten _ encZigZag32 (fun i => (sizeOfZigZag_exact i).2) _)
  | pSint64 vs => exact packedWire_eq hv.1 tag _ _ (sumSizes_flatten _ encZigZag64 (fun i => (sizeOfZigZag_exact i).1) _)
  | pFixed32 vs | pFloat32 vs => exact packedWire_eq hv.1 tag _ _ (flatten_const_length encFixed32 4 (fun _ => rfl) vs).symm
  | pFixed64 vs | pFloat64 vs => exact packedWire_eq hv.1 tag _ _ (flatten_const_length encFixed64 8 (fun _ => rfl) vs).symm
  | str b | bytes b => exact List.append_assoc ..
  | bool | int32 | int64 | uint32 | uint64 | sint32 | sint64 | fixed32 | float32 | fixed64 | float64 => rfl

def FieldVal.payload (fv : FieldVal) (tag : Nat) : Bytes := ((fv.encOp tag).wire).drop (encTag tag fv.wt).length

theorem payload_eq (fv : FieldVal) (tag : Nat) (hv : fv.Valid) : fv.payload tag = fv.body := by
  unfold FieldVal.payload; rw [wire_eq fv tag hv, List.drop_left]

theorem wire_split (fv : FieldVal) (tag : Nat) (hv : fv.Valid) :
    (fv.encOp tag).wire = encTag tag fv.wt ++ fv.payload tag := by
  rw [payload_eq fv tag hv, wire_eq fv tag hv]

theorem wt_lt (fv : FieldVal) : fv.wt < 8 := by cases fv <;> simp [FieldVal.wt, wtVarint, wtFixed32, wtFixed64, wtLen]

theorem packedBody_length {α} (k : Nat) (enc : α → Bytes) (vs : List α) (n : Nat)
    (hn : n = ((vs.map enc).flatten).length) : k + sizeOfVarint n + n = k + (packedBody enc vs).length := by
  rw [packedBody, List.length_append, sizeOfVarint_eq_length, hn, Nat.add_assoc]

/-- **Predicted size = bytes written**, for every kind, value and field number. -/
theorem predicted_exact (fv : FieldVal) (tag : Nat) (ht : ValidTag tag) (hv : fv.Valid) :
    fv.predicted tag = (fv.encOp tag).wire.length := by
  rw [wire_eq fv tag hv, List.length_append, ← sizeOfTagKey_exact tag fv.wt ht (wt_lt fv)]
  have varints := sumSizes_flatten sizeOfVarint encVarint sizeOfVarint_eq_length
  cases fv with
  | bool | fixed32 | float32 | fixed64 | float64 => rfl
  | int32 | int64 | uint32 | uint64 => exact congrArg _ (sizeOfVarint_eq_length _)
  | sint32 i => exact congrArg _ (sizeOfZigZag_exact i).2
  | sint64 i => exact congrArg _ (sizeOfZigZag_exact i).1
  | str b | bytes b => rw [FieldVal.body, List.length_append, ← sizeOfVarint_eq_length]; exact Nat.add_assoc ..
  | pBool vs => exact packedBody_length _ _ vs _ (by rw [cBool, map_singleton_flatten, List.length_map])
  | pInt32 vs | pInt64 vs => exact packedBody_length _ _ vs _ (by rw [varints, List.map_map]; rfl)
  | pUint32 vs | pUint64 vs => exact packedBody_length _ _ vs _ (varints vs)
  | pSint32 vs => exact packedBody_length _ _ vs _ (sumSizes_flatten _ _ (fun i => (sizeOfZigZag_exact i).2) vs)
  | pSint64 vs => exact packedBody_length _ _ vs _ (sumSizes_flatten _ _ (fun i => (sizeOfZigZag_exact i).1) vs)
  | pFixed32 vs | pFloat32 vs => exact packedBody_length _ _ vs _ (flatten_const_length encFixed32 4 (fun _ => rfl) vs).symm
  | pFixed64 vs | pFloat64 vs => exact packedBody_length _ _ vs _ (flatten_const_length encFixed64 8 (fun _ => rfl) vs).symm

theorem encOp_plain (fv : FieldVal) (tag : Nat) : (fv.encOp tag).plain = true := by
  cases fv <;> rfl

/-- **Exact fill.** Encoding into a buffer of exactly the predicted size does not panic, does not
    truncate, leaves the cursor at the end of the buffer, and the buffer holds exactly the field's
    wire bytes (never overrun, never slack). -/
theorem exact_fill (fv : FieldVal) (tag : Nat) (ht : ValidTag tag) (hv : fv.Valid) :
    ∃ e, (Enc.new (fv.predicted tag)).step (fv.encOp tag) = .ok e ∧ e.off = e.cap ∧
      e.cap = fv.predicted tag ∧ e.buf = (fv.encOp tag).wire := by
  have hp := predicted_exact fv tag ht hv
  obtain ⟨e, hs, ha⟩ := (Enc.new (fv.predicted tag)).step_room (fv.encOp tag) (encOp_plain fv tag)
    (by unfold Enc.Room; rw [Enc.new_cap, hp]; simp [Enc.new])
  have hcap : e.cap = fv.predicted tag := by rw [ha.cap, Enc.new_cap]
  have hoff : e.off = e.cap := by rw [ha.off, hcap, hp]; simp [Enc.new]
  refine ⟨e, hs, hoff, hcap, ?_⟩
  rw [← Enc.written_full hoff, ha.written, Enc.new_written]; simp

/-- a scalar method on the encoding of a value of its codec's domain -/
theorem Codec.scalar_step {α} (c : Codec α) {op : DecOp} (mk : α → Item)
    (hop : ∀ d : Dec, d.step op = withAlloc (d.scalar c.elem mk) 0) {v : α} (hv : c.dom v)
    {d : Dec} {pre post : Bytes} (h : d.At pre (c.enc v ++ post)) :
    ∃ a, d.step op = ({ d with off := d.off + (c.enc v).length }, .ok (mk v), a) :=
  ⟨0, Dec.step_scalar_at c.elem mk hop h (List.ne_nil_of_length_pos (c.pos v)) v (c.reads v hv post)⟩

theorem flatten_le {α} (enc : α → Bytes) (vs : List α) (k : Nat) (hk : ∀ v ∈ vs, (enc v).length ≤ k) :
    ((vs.map enc).flatten).length ≤ vs.length * k := by
  induction vs with
  | nil => simp
  | cons v vs ih =>
    have := hk v (by simp)
    have := ih (fun w hw => hk w (by simp [hw]))
    simp only [List.map_cons, List.flatten_cons, List.length_append, List.length_cons, Nat.add_mul]; omega

/-- a packed method on the packed encoding of values of its codec's domain -/
theorem Codec.packed_step {α} (c : Codec α) {op : DecOp} (mk : List α → Item) (prealloc : Option Nat)
    (hop : ∀ d : Dec, d.step op = d.packed c.elem mk prealloc) {vs : List α} (hall : ∀ v ∈ vs, c.dom v)
    (hlen : vs.length * 10 < two64) {d : Dec} {pre post : Bytes} (h : d.At pre (packedBody c.enc vs ++ post)) :
    ∃ a, d.step op = ({ d with off := d.off + (packedBody c.enc vs).length }, .ok (mk vs), a) := by
  rw [hop]
  exact Dec.packed_at c.elem c.enc mk vs prealloc (fun v hv => c.reads v (hall v hv)) (fun v _ => c.pos v)
    (Nat.lt_of_le_of_lt (flatten_le c.enc vs 10 fun v hv => c.short v (hall v hv)) hlen) h

/-- the value step, positioned right after the key -/
theorem value_step (fv : FieldVal) (tag : Nat) (hv : fv.Valid) (d : Dec) (pre post : Bytes)
    (h : d.At pre (fv.payload tag ++ post)) :
    ∃ a, d.step fv.decOp = ({ d with off := d.off + (fv.payload tag).length }, .ok fv.item, a) := by
  rw [payload_eq fv tag hv] at h ⊢
  cases fv with
  | bool b => exact cBool.scalar_step .bool (fun _ => rfl) trivial h
  | int32 i => exact cInt32.scalar_step .int (fun _ => rfl) hv h
  | int64 i => exact cInt64.scalar_step .int (fun _ => rfl) hv h
  | uint32 n => exact cUint32.scalar_step .nat (fun _ => rfl) hv h
  | uint64 n => exact cUint64.scalar_step .nat (fun _ => rfl) hv h
  | sint32 i => exact cSint32.scalar_step .int (fun _ => rfl) hv h
  | sint64 i => exact cSint64.scalar_step .int (fun _ => rfl) hv h
  | fixed32 n => exact cFixed32.scalar_step .nat (fun _ => rfl) hv h
  | float32 n => exact cFixed32.scalar_step (op := .float32) .nat (fun _ => rfl) hv h
  | fixed64 n => exact cFixed64.scalar_step .nat (fun _ => rfl) hv h
  | float64 n => exact cFixed64.scalar_step (op := .float64) .nat (fun _ => rfl) hv h
  | bytes b => exact ⟨0, Dec.step_bytes_at h hv⟩
  | str b => exact ⟨_, Dec.step_string_at h hv⟩
  | pBool vs =>
    exact cBool.packed_step .bools none (fun _ => rfl) (fun _ _ => trivial)
      (Nat.lt_of_le_of_lt (Nat.mul_le_mul_right 10 hv.2) (by decide)) h
  | pInt32 vs => exact cInt32.packed_step .ints none (fun _ => rfl) hv.2.1 hv.2.2 h
  | pInt64 vs => exact cInt64.packed_step .ints none (fun _ => rfl) hv.2.1 hv.2.2 h
  | pUint32 vs => exact cUint32.packed_step .nats none (fun _ => rfl) hv.2.1 hv.2.2 h
  | pUint64 vs => exact cUint64.packed_step .nats none (fun _ => rfl) hv.2.1 hv.2.2 h
  | pSint32 vs => exact cSint32.packed_step .ints none (fun _ => rfl) hv.2.1 hv.2.2 h
  | pSint64 vs => exact cSint64.packed_step .ints none (fun _ => rfl) hv.2.1 hv.2.2 h
  | pFixed32 vs => exact cFixed32.packed_step .nats none (fun _ => rfl) hv.2.1 hv.2.2 h
  | pFloat32 vs => exact cFixed32.packed_step (op := .packedFloat32) .nats (some 4) (fun _ => rfl) hv.2.1 hv.2.2 h
  | pFixed64 vs => exact cFixed64.packed_step .nats none (fun _ => rfl) hv.2.1 hv.2.2 h
  | pFloat64 vs => exact cFixed64.packed_step (op := .packedFloat64) .nats none (fun _ => rfl) hv.2.1 hv.2.2 h

/-- **Round trip.** Wherever the field sits in the input (`pre`, `post` arbitrary) and whatever
    the decoder mode, `DecodeTag` returns the field number and wire type written, the kind's
    `Decode…` method returns exactly the value written, and the cursor ends exactly at the end of
    the bytes written. -/
theorem roundtrip (fv : FieldVal) (tag : Nat) (ht : ValidTag tag) (hv : fv.Valid)
    (d : Dec) (pre post : Bytes) (h : d.At pre ((fv.encOp tag).wire ++ post)) :
    ∃ d1 d2 a, d.step .tag = (d1, .ok (.tag tag fv.wt), 0) ∧
      d1.step fv.decOp = (d2, .ok fv.item, a) ∧
      d2.off = pre.length + (fv.encOp tag).wire.length ∧ d2.p = d.p ∧ d2.fast = d.fast := by
  rw [wire_split fv tag hv, List.append_assoc] at h
  have h1 := Dec.tag_at h ht.1 ht.2 (wt_lt fv)
  have hAt := h.afterTag
  obtain ⟨a, h2⟩ := value_step fv tag hv _ _ _ hAt
  refine ⟨_, _, a, h1, h2, ?_, rfl, rfl⟩
  rw [wire_split fv tag hv]
  simp [h.off]; omega

/-! ## non-vacuity: the hypotheses are met by concrete, non-trivial instances -/

example : ValidTag 536870911 ∧ (FieldVal.int32 (-1)).Valid ∧ (FieldVal.float32 0x7fc00001).Valid ∧
    (FieldVal.pSint64 [-9223372036854775808, 9223372036854775807]).Valid ∧
    (FieldVal.str (List.replicate 300 0x61)).Valid := by
  refine ⟨by unfold ValidTag maxTagValue; omega, by unfold FieldVal.Valid InI32 two31; omega,
    by unfold FieldVal.Valid two32; omega, ⟨by simp, ?_, by unfold two64; simp⟩, ?_⟩
  · intro v hv; simp at hv; rcases hv with rfl | rfl <;> (unfold InI64 two63; omega)
  · show (List.replicate 300 (0x61 : UInt8)).length ≤ maxFieldLen
    rw [List.length_replicate]; unfold maxFieldLen; omega

/-- the -1 / field number 2^29-1 instance, computed by the model: 5-byte key + 10-byte varint -/
example : ((FieldVal.int32 (-1)).encOp 536870911).wire =
    [0xf8, 0xff, 0xff, 0xff, 0x0f, 0xff, 0xff, 0xff, 0xff, 0xff, 0xff, 0xff, 0xff, 0xff, 0x01] := by
  simp [FieldVal.encOp, EncOp.wire, encTag, keyOf, toU64, two64, wtVarint, encVarint]

end Csproto.C01
