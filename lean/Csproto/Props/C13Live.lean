import Csproto.Props.C14NestedEx
/-
  C13 with SEVERAL results of one Decoder alive at the same time.

  C13 quantifies over messages and definitions: a nested path returns the corresponding sub-message's
  values — whatever else the Decoder has been asked to do in the meantime.  A client may keep a result
  open while it decodes the next message with the same Decoder (batches, two goroutines, a result held
  while the next one is read), so the answers of result B must not depend on what happens to result A:
  on A's nested reads, on A's `Close` (which releases A's nested results into the nested decoder's pool),
  or on a later `Decode` that recycles A's objects.

  The general statement is `C14N.nested_history_refines`: the pooled machine answers like the pool-free
  specification `NSpec`.  Here that specification is shown to have the frame property C13 needs: the answer
  for a live handle is a function of the handle's own bytes alone (`spec_acc_own`; with the refinement:
  `live_answer_after`), and no operation on another result changes those bytes (`spec_close_keeps_others`,
  `spec_decode_keeps`, `spec_acc_keeps`).  `liveEx` is the interleaving "open A, open B, nested reads on both,
  close A, re-decode into A's recycled objects, read B again" evaluated on the pooled machine.
-/
namespace Csproto.C13Live
open Csproto Csproto.C14 Csproto.C14N

/-- what the specification answers for a request on a handle: computed from the handle's own bytes -/
def ownAnswer (root : LDec) (b : Bytes) (p : List Nat) (path : List Int) (a : Acc) : LOut :=
  match view root p b with
  | some (node, fds) => .ans (lookupPath (path.length + 1) node (some fds) (path.map Int.natAbs) a)
  | none => .ans .panic

/-- **the answer depends on the handle's own bytes only**, whatever other results are open or closed -/
theorem spec_acc_own (sp : NSpec) (h : Nat) (b : Bytes) (p : List Nat) (g : Nat) (path : List Int) (a : Acc)
    (hh : sp.handle? h = some (.live b p g)) :
    (sp.step (.acc h path a)).2 = ownAnswer sp.root b p path a := by
  simp only [NSpec.step, hh, ownAnswer]
  cases view sp.root p b with
  | none => rfl
  | some x => cases x; rfl

theorem closeGen_other {g g' : Nat} (b : Bytes) (p : List Nat) (hne : g' ≠ g) :
    closeGen g (.live b p g') = .live b p g' := by
  simp [closeGen, hne]

theorem handle_clr (sp : NSpec) (h : Nat) : sp.clr.handle? h = sp.handle? h := rfl

/-- **Closing one result leaves the others as they are**: a live handle that descends from another root
    result (another generation) is still live, with the same bytes, after `Close` of the root handle `h`. -/
theorem spec_close_keeps_others (sp : NSpec) (h h' : Nat) (b b' : Bytes) (p' : List Nat) (g g' : Nat)
    (hh : sp.handle? h = some (.live b [] g)) (hh' : sp.handle? h' = some (.live b' p' g')) (hne : g' ≠ g) :
    (sp.step (.close h)).1.handle? h' = some (.live b' p' g') := by
  have e : (sp.step (.close h)).1 = { sp.closeAll g with justClosed := some h } := by
    simp [NSpec.step, hh]
  rw [e]
  have e2 : ({ sp.closeAll g with justClosed := some h } : NSpec).handle? h' = (sp.closeAll g).handle? h' := rfl
  rw [e2, nhandle_closeAll, hh']
  simp [closeGen_other b' p' hne]

theorem spec_acc_keeps (sp : NSpec) (h h' : Nat) (path : List Int) (a : Acc) :
    (sp.step (.acc h path a)).1.handle? h' = sp.handle? h' := rfl

/-- decoding a further message into a NEW handle changes no other handle -/
theorem spec_decode_keeps (sp : NSpec) (h h' : Nat) (input : Bytes) (c : Choice) (hne : h' ≠ h) :
    (sp.step (.decode h input c)).1.handle? h' = sp.handle? h' := by
  simp only [NSpec.step]
  split
  · show (sp.setHandle h .nilRes).handle? h' = _
    rw [nhandle_setHandle]; simp [hne]
  · split
    · show (sp.setHandle h (.live input [] sp.gen)).handle? h' = _
      rw [nhandle_setHandle]; simp [hne]
    · rfl
    · rfl

/-- the specification state `sp` in which the request is made is a parameter; `live_answer_after` computes it -/
theorem live_answers_are_own_input (root : LDec) (pooled : Bool) (pre : List LOp) (h : Nat) (path : List Int) (a : Acc)
    (hok : NHistOK (LState.init root pooled) (NSpec.init root) (pre ++ [.acc h path a])) :
    ∀ (sp : NSpec) (b : Bytes) (p : List Nat) (g : Nat),
      sp.root = root →
      NSpec.outputs (NSpec.init root) (pre ++ [.acc h path a]) = NSpec.outputs (NSpec.init root) pre ++ [(sp.step (.acc h path a)).2] →
      sp.handle? h = some (.live b p g) →
      outputs (LState.init root pooled) (pre ++ [.acc h path a]) =
        NSpec.outputs (NSpec.init root) pre ++ [ownAnswer root b p path a] := by
  intro sp b p g hroot hout hh
  rw [nested_history_refines root pooled _ hok, hout, spec_acc_own sp h b p g path a hh, hroot]

def specAfter (sp : NSpec) : List LOp → NSpec
  | [] => sp
  | op :: ops => specAfter (sp.step op).1 ops

theorem outputs_append (ops : List LOp) : ∀ (sp : NSpec) (op : LOp),
    NSpec.outputs sp (ops ++ [op]) = NSpec.outputs sp ops ++ [((specAfter sp ops).step op).2]
  | sp, op => by
    induction ops generalizing sp with
    | nil => simp [NSpec.outputs, specAfter]
    | cons o os ih => simp [NSpec.outputs, specAfter, ih]

theorem specNesteds_root (sub : LDec) (p : List Nat) (t g : Nat) : ∀ (sp : NSpec) (data : List Bytes) (hs : List Nat) (cs : List Choice)
    (acc : List Bool), (specNesteds sub p t g sp data hs cs acc).1.root = sp.root
  | sp, [], _, _, acc => by simp [specNesteds]
  | sp, _ :: _, [], _, acc => by simp [specNesteds]
  | sp, _ :: _, _ :: _, [], acc => by simp [specNesteds]
  | sp, b :: bs, h :: hs, c :: cs, acc => by
    simp only [specNesteds]
    split
    · rw [specNesteds_root sub p t g _ bs hs cs]; rfl
    · rw [specNesteds_root sub p t g _ bs hs cs]; rfl
    · rfl

theorem step_root (sp : NSpec) (op : LOp) : (sp.step op).1.root = sp.root := by
  cases op with
  | decode h input c =>
    simp only [NSpec.step]
    repeat' split
    all_goals rfl
  | acc h path a => rfl
  | range h => rfl
  | close h =>
    simp only [NSpec.step]
    repeat' split
    all_goals rfl
  | nested h tag h' c =>
    simp only [NSpec.step]
    repeat' split
    all_goals rfl
  | nesteds h tag hs cs =>
    simp only [NSpec.step]
    repeat' split
    -- every branch returns `sp.clr` except the last, which runs `specNesteds` from `sp.clr`
    all_goals first | rfl | exact specNesteds_root _ _ _ _ _ _ _ _ _

theorem specAfter_root (ops : List LOp) : ∀ (sp : NSpec), (specAfter sp ops).root = sp.root := by
  induction ops with
  | nil => intro sp; rfl
  | cons op ops ih => intro sp; simp only [specAfter]; rw [ih, step_root]

/-- **C13 for a result that is read while other results of the same Decoder are open, closed and
    recycled.**  Take any history `pre` that keeps to the API contract, after which handle `h` is a live
    result decoded from the bytes `b` by decoder node `p`.  Then the pooled machine — whatever objects its
    pools handed out during `pre` — answers a request `path`/`a` on `h` with the value computed from `b`
    alone (`ownAnswer`: a brand-new object decodes `b` and the path is looked up in it). -/
theorem live_answer_after (root : LDec) (pooled : Bool) (pre : List LOp) (h : Nat) (path : List Int) (a : Acc)
    (b : Bytes) (p : List Nat) (g : Nat)
    (hok : NHistOK (LState.init root pooled) (NSpec.init root) (pre ++ [.acc h path a]))
    (hh : (specAfter (NSpec.init root) pre).handle? h = some (.live b p g)) :
    outputs (LState.init root pooled) (pre ++ [.acc h path a]) =
      NSpec.outputs (NSpec.init root) pre ++ [ownAnswer root b p path a] :=
  live_answers_are_own_input root pooled pre h path a hok _ b p g
    (by rw [specAfter_root]; rfl) (outputs_append pre _ _) hh

/-- `{1: 5, 2: {1: 7}}` -/
def inA : Bytes := [0x08, 0x05, 0x12, 0x02, 0x08, 0x07]
/-- `{1: 6, 2: {1: 9}}` -/
def inB : Bytes := [0x08, 0x06, 0x12, 0x02, 0x08, 0x09]
/-- `{1: 8, 2: {1: 11}}` -/
def inC : Bytes := [0x08, 0x08, 0x12, 0x02, 0x08, 0x0b]

/-- open A (object 10) and B (object 20); `NestedResult(2)` on A (object 11, handle 3) and on B (object 21,
    handle 4); read both nested handles and both two-element paths; `Close` A — which releases 11 and the
    client-invisible nested object behind A's path read into the nested decoder's pool — and read B's nested
    handle and path again; decode C into A's RECYCLED root object 10 and take its nested result out of A's
    RECYCLED nested object 11; read C's and then, once more, B's nested values; close B, then C. -/
def liveEx : List LOp :=
  [.decode 1 inA (.new 10), .decode 2 inB (.new 20), .nested 1 2 3 (.new 11), .nested 2 2 4 (.new 21),
   .acc 3 [1] .uint64, .acc 4 [1] .uint64, .acc 1 [2, 1] .uint64, .acc 2 [2, 1] .uint64,
   .close 1, .acc 4 [1] .uint64, .acc 2 [2, 1] .uint64,
   .decode 5 inC (.reuse 10), .nested 5 2 6 (.reuse 11), .acc 6 [1] .uint64, .acc 5 [2, 1] .uint64,
   .acc 4 [1] .uint64, .acc 2 [2, 1] .uint64, .acc 2 [1] .uint64, .close 2, .acc 6 [1] .uint64, .close 5]

theorem liveEx_ok : NHistOK (LState.init nroot true) (NSpec.init nroot) liveEx :=
  nhistOKb_sound _ _ _ (by decide +kernel)

/-- B answers 9 (and 6 at the root) before and after A's `Close` and after A's objects were recycled for C -/
theorem liveEx_outputs : outputs (LState.init nroot true) liveEx =
    [.ok, .ok, .ok, .ok, .ans (.ok (.nat 7)), .ans (.ok (.nat 9)), .ans (.ok (.nat 7)), .ans (.ok (.nat 9)),
     .ok, .ans (.ok (.nat 9)), .ans (.ok (.nat 9)),
     .ok, .ok, .ans (.ok (.nat 11)), .ans (.ok (.nat 11)),
     .ans (.ok (.nat 9)), .ans (.ok (.nat 9)), .ans (.ok (.nat 6)), .ok, .ans (.ok (.nat 11)), .ok] := by
  decide +kernel

end Csproto.C13Live
