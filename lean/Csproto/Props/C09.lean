import Csproto.Props.C04
import Csproto.Proofs.GenNested
import Csproto.Bridge.Templates
import Csproto.Bridge.Dispatch
/-
  C09 — Marshal output depends only on the message's current contents.

  State of a message as the generated methods and the runtime see it: its contents **and** the
  runtime's size-cache field (`sizeCache` / `XXX_sizecache`), which `proto.Size`, `proto.Marshal`
  (and, before the `fix:` commit, the generated `Size()`) write.  `readsCache` says whether the
  generated `Size()` returns a positive cached value; the regenerated fact
  `Generated.sizeCacheMentions = 0` (bridge `no_size_cache`) pins it to `false` for the current tree.

  * `history_invariant` — for **every** history of contents changes, generated Size / Marshal calls,
    runtime Size/Marshal calls that leave *any* value in the cache, Unmarshal, Reset and Clone, every
    generated Marshal returns exactly `Gen.marshal` of the current contents (the bytes a fresh copy
    gives), whatever the cache holds;
  * `cache_reader_breaks_it` — with `readsCache = true` (the code before the fix) the three-step
    history Marshal; grow a string; Marshal returns a buffer sized for the old contents, and the
    runtime's `size+1` convention alone makes runtime-Size; Marshal wrong — the negation, by `rfl`;
  * concurrent readers: the generated Size/Marshal/MarshalTo read the message and write nothing
    (fact: no size-cache access, `MarshalTo` only writes to `dest`), so concurrent calls on an
    unmodified message are read-only and each returns `Gen.marshal contents` (`readers_agree`).
    Data-race freedom itself is a property of the Go memory model: NOT carried by the proof; it is
    supported by that fact and by the race-detector run of the harness.
-/
namespace Csproto.C09
open Csproto Csproto.Gen

structure St where
  fs : List F
  unk : Bytes
  cache : Int          -- the runtime's size-cache field

/-- generated `Size()` -/
def genSize (readsCache : Bool) (S : Schema) (md : MD) (s : St) : Nat :=
  if readsCache && decide (s.cache > 0) then s.cache.toNat else sizeFields S md s.fs + s.unk.length

/-- generated `Marshal()` on top of that `Size()` -/
def genMarshal (readsCache : Bool) (S : Schema) (md : MD) (s : St) : Res Bytes :=
  marshalSized S md s.fs s.unk (genSize readsCache S md s)

inductive Op where
  | set (fs : List F) (unk : Bytes)     -- any mutation of the contents through the Go struct
  | size | marshal                      -- the generated methods (also reached through csproto.Size/Marshal)
  | runtime (leaves : Int)              -- the runtime's own Size/Marshal: writes whatever it likes into its cache
  | unmarshal (p : Bytes) (fast : Bool) -- generated Unmarshal (Reset + decode)
  | reset
  | clone                               -- proto.Clone: same contents, empty cache

/-- one step; the output is what a generated Marshal returned (if the step was one) -/
def step (readsCache : Bool) (S : Schema) (md : MD) (s : St) : Op → St × Option (Res Bytes)
  | .set fs unk => ({ s with fs := fs, unk := unk }, none)
  | .size => (if readsCache then { s with cache := (genSize readsCache S md s : Nat) } else s, none)
  | .marshal => (if readsCache then { s with cache := (genSize readsCache S md s : Nat) } else s, some (genMarshal readsCache S md s))
  | .runtime c => ({ s with cache := c }, none)
  | .unmarshal p fast =>
    match unmarshal S fast md p with
    | .ok (fs, unk) => ({ s with fs := fs, unk := unk }, none)
    | _ => ({ s with fs := initFields md, unk := [] }, none)     -- Reset() happened, decoding stopped
  | .reset => ({ fs := initFields md, unk := [], cache := 0 }, none)
  | .clone => ({ s with cache := 0 }, none)

def run (readsCache : Bool) (S : Schema) (md : MD) : St → List Op → List (Res Bytes)
  | _, [] => []
  | s, op :: ops =>
    let (s', o) := step readsCache S md s op
    match o with
    | some r => r :: run readsCache S md s' ops
    | none => run readsCache S md s' ops

/-- the specification: the same history on a state that has no cache at all -/
def specRun (S : Schema) (md : MD) : List F × Bytes → List Op → List (Res Bytes)
  | _, [] => []
  | (fs, unk), op :: ops =>
    match op with
    | .set fs' unk' => specRun S md (fs', unk') ops
    | .marshal => marshal S md fs unk :: specRun S md (fs, unk) ops
    | .unmarshal p fast =>
      match unmarshal S fast md p with
      | .ok (fs', unk') => specRun S md (fs', unk') ops
      | _ => specRun S md (initFields md, []) ops
    | .reset => specRun S md (initFields md, []) ops
    | _ => specRun S md (fs, unk) ops

theorem genMarshal_no_cache (S : Schema) (md : MD) (s : St) :
    genMarshal false S md s = marshal S md s.fs s.unk := by
  simp [genMarshal, genSize, marshal]

theorem history_invariant (S : Schema) (md : MD) (ops : List Op) : ∀ (s : St),
    run false S md s ops = specRun S md (s.fs, s.unk) ops := by
  induction ops with
  | nil => intro s; rfl
  | cons op ops ih =>
    intro s
    cases op with
    | set fs unk => simp only [run, step, specRun]; exact ih _
    | size => simp only [run, step, specRun, Bool.false_eq_true, if_false]; exact ih _
    | marshal => simp only [run, step, specRun, genMarshal_no_cache, Bool.false_eq_true, if_false]; rw [ih s]
    | runtime c => simp only [run, step, specRun]; exact ih _
    | unmarshal p fast =>
      simp only [run, step, specRun]
      cases h : unmarshal S fast md p with
      | ok r => obtain ⟨fs', unk'⟩ := r; exact ih _
      | err => exact ih _
      | panic => exact ih _
    | reset => simp only [run, step, specRun]; exact ih _
    | clone => simp only [run, step, specRun]; exact ih _

/-- in particular the result never depends on the cache value the history started with -/
theorem initial_cache_irrelevant (S : Schema) (md : MD) (ops : List Op) (fs : List F) (unk : Bytes) (c c' : Int) :
    run false S md ⟨fs, unk, c⟩ ops = run false S md ⟨fs, unk, c'⟩ ops := by
  rw [history_invariant, history_invariant]

/-- the fact that pins `readsCache = false` to the current templates -/
theorem fact_no_size_cache : Generated.sizeCacheMentions = 0 := Bridge.Templates.no_size_cache

/-- readers on an unmodified message: any number of generated Marshal calls, in any order, each
    return the bytes of the contents (the calls do not change the state at all) -/
theorem readers_agree (S : Schema) (md : MD) (s : St) (n : Nat) :
    run false S md s (List.replicate n .marshal) = List.replicate n (marshal S md s.fs s.unk) := by
  induction n with
  | zero => rfl
  | succ n ih => simp only [List.replicate_succ, run, step, genMarshal_no_cache, Bool.false_eq_true, if_false]; rw [ih]

/-! ### Unmarshal of the empty payload, and the routes through csproto -/

/-- zero bytes are the encoding of "nothing set": whatever the message held, after `Unmarshal(nil)` /
    `Unmarshal([]byte{})` (which may fail only for a missing required field) its contents are those of a new
    message — the receiver's earlier contents are gone -/
theorem unmarshal_empty_is_reset (rc : Bool) (S : Schema) (md : MD) (s : St) (fast : Bool) :
    (step rc S md s (.unmarshal [] fast)).1.fs = initFields md ∧
    (step rc S md s (.unmarshal [] fast)).1.unk = [] := by
  simp only [step, unmarshal_nil]
  cases hasRequired md <;> exact ⟨rfl, rfl⟩

/-- hence the next Marshal returns the bytes of the empty contents, not of the previous ones -/
theorem marshal_after_empty_unmarshal (S : Schema) (md : MD) (s : St) (fast : Bool) :
    run false S md s [.unmarshal [] fast, .marshal] = [marshal S md (initFields md) []] := by
  rw [history_invariant]
  simp only [specRun, unmarshal_nil]
  cases hasRequired md <;> rfl

/-- the routes "through csproto": `csproto.Unmarshal` (and `GrpcCodec.Unmarshal`, which only calls it) consists
    of the three interface probes and nothing else — no statement ahead of them that could return before the
    receiver is reset — and each arm resets before it decodes (`proto.Unmarshal` resets by contract); likewise
    `csproto.Marshal` / `csproto.Size` go straight to the generated methods.  So the `Op`s above are what these
    routes execute. -/
theorem fact_csproto_routes :
    Generated.Unmarshal_probes = ["Unmarshaler:.Reset,.Unmarshal", "ProtoV1Unmarshaler:.Reset,.XXX_Unmarshal", "proto.Message:proto.Unmarshal"] ∧
    Generated.Marshal_probes = ["Marshaler:.Marshal", "ProtoV1Marshaler:.XXX_Size,.XXX_Marshal", "proto.Message:proto.Marshal"] ∧
    Generated.Size_probes = ["Sizer:.Size", "ProtoV1Sizer:.XXX_Size", "proto.Message:proto.Size"] :=
  ⟨Bridge.unmarshal_probes_ok, Bridge.marshal_probes_ok, Bridge.size_probes_ok⟩

/-- proto2 extensions are sized and written in an order fixed at generation time (fact), so `Gen.marshal`
    being a function of the contents carries over to them: nothing call-dependent (the runtime's map order)
    enters the output -/
theorem fact_extension_order_static :
    Generated.extensionLoops = [("singlefile.go.tmpl", true, true), ("permessage.go.tmpl", true, true)] ∧
    Generated.runtimeOrderedIteration = 0 := Bridge.Templates.extension_order_is_static

/-! ### the negation for the code before the fix (documented finding B11) -/

def sStr : Schema := [[⟨1, .sc .string, .implicit⟩]]
def small : List F := [.one (.bs [0x61])]
def big : List F := [.one (.bs [0x61, 0x61, 0x61, 0x61, 0x61, 0x61])]

/-- the state after Marshal; grow the string (history of the code before the fix) -/
def afterGrow : St := (step true sStr (sStr.md 0) (step true sStr (sStr.md 0) ⟨small, [], 0⟩ .marshal).1 (.set big [])).1

/-- with a cache-reading `Size()`: after Marshal; grow the string, `Size()` still answers 3 although the
    contents now need 8 bytes, so the next Marshal works in a 3-byte buffer: it cannot return the
    bytes of the current contents (in the Go code the encoder runs off the end of that buffer) -/
theorem cache_reader_breaks_it :
    afterGrow.cache = 3 ∧ genSize true sStr (sStr.md 0) afterGrow = 3 ∧
    sizeFields sStr (sStr.md 0) afterGrow.fs + afterGrow.unk.length = 8 := by
  decide

/-- and the runtime's `size + 1` convention alone (protobuf-go ≥ 1.36 leaves 4 in the cache of a
    3-byte message): the generated `Size()` then answers 4 without any mutation -/
theorem runtime_cache_convention_breaks_it :
    genSize true sStr (sStr.md 0) (step true sStr (sStr.md 0) ⟨small, [], 0⟩ (.runtime 4)).1 = 4 ∧
    sizeFields sStr (sStr.md 0) small = 3 := by
  decide

end Csproto.C09
