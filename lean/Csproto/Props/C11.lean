import Csproto.Model.Shim
/-
  C11 — The runtime-agnostic API is a transparent, stable dispatcher.

  Lean carries the decision logic: classification as a function of the capability vector, its
  values on the supported classes and on everything else, and stability of the first-use cache under
  every interleaving.  That each `switch MsgType` arm calls the owning runtime's function is a
  bridge lemma over the regenerated wiring table (Bridge/Shim.lean); that the runtimes' own
  functions behave as expected is an assumption validated by the correspondence stream.
-/
namespace Csproto.C11
open Csproto

/-- capability vectors of the three supported classes, as *measured* on real types by the harness
    (fast-marshal methods do not influence classification) -/
def gogoCaps : Caps := { nilIface := false, isV2 := false, isPtr := true, isV1Iface := true, gogoRegistered := true }
def googleV1Caps : Caps := { nilIface := false, isV2 := false, isPtr := true, isV1Iface := true, gogoRegistered := false }
def googleV2Caps : Caps := { nilIface := false, isV2 := true, isPtr := true, isV1Iface := true, gogoRegistered := false }

/-- **classification is correct on the supported classes** -/
theorem classify_supported :
    msgType gogoCaps = .gogo ∧ msgType googleV1Caps = .googleV1 ∧ msgType googleV2Caps = .google := by decide

/-- **everything that is not a message is `unknown`**: nil, non-pointers that are not v2 messages,
    pointers to non-messages -/
theorem classify_unsupported (c : Caps) (h : c.nilIface = true ∨ (c.isV2 = false ∧ (c.isPtr = false ∨ c.isV1Iface = false))) :
    msgType c = .unknown := by
  unfold msgType deduce
  rcases h with h | ⟨h1, h2 | h2⟩ <;> simp [*]

/-- a v2 message is `google` whatever else it satisfies (v1-style methods, registration) -/
theorem classify_v2_first (c : Caps) (h1 : c.nilIface = false) (h2 : c.isV2 = true) : msgType c = .google := by
  simp [msgType, deduce, h1, h2]

/-- every goroutine's local value and the cache only ever hold the true classification -/
structure CacheInv (c : Caps) (s : CacheState) : Prop where
  cache : ∀ v, s.cache = some v → v = deduce c
  pcs : ∀ pc ∈ s.pcs, (∀ v, pc = .deduced v → v = deduce c) ∧ (∀ v, pc = .done v → v = deduce c)

theorem cacheInv_init (c : Caps) (g : Nat) : CacheInv c (CacheState.init g) := by
  refine ⟨fun _ h => (nomatch h), fun pc hpc => ?_⟩
  cases List.eq_of_mem_replicate hpc
  exact ⟨fun _ h => (nomatch h), fun _ h => (nomatch h)⟩

/-- overwriting one goroutine's program counter with one that carries only the true classification keeps the
    goroutines' half of the invariant -/
theorem CacheInv.pcs_set {c : Caps} {s : CacheState} (h : CacheInv c s) (g : Nat) {pc : PC}
    (hpc : (∀ v, pc = .deduced v → v = deduce c) ∧ (∀ v, pc = .done v → v = deduce c)) :
    ∀ x ∈ s.pcs.set g pc, (∀ v, x = .deduced v → v = deduce c) ∧ (∀ v, x = .done v → v = deduce c) :=
  fun x hx => (List.mem_or_eq_of_mem_set hx).elim (h.pcs x) (fun e => e ▸ hpc)

/-- one atomic action of one goroutine: a hit copies the cache (true by `h.cache`), a miss deduces `deduce c` itself,
    and the only write to the cache stores a value some goroutine deduced (true by `h.pcs`) -/
theorem cacheInv_step (c : Caps) (s : CacheState) (g : Nat) (h : CacheInv c s) : CacheInv c (cacheStep c s g) := by
  unfold cacheStep
  split
  · exact h                                                                   -- no such goroutine
  · split
    · next v hc => exact ⟨h.cache, h.pcs_set g (by simp [h.cache v hc])⟩       -- `Load` hits
    · exact ⟨h.cache, h.pcs_set g (by simp)⟩                                   -- `Load` misses
  · exact ⟨h.cache, h.pcs_set g (by simp)⟩                                     -- `deduceMsgType`
  · next v hg =>                                                              -- `Store`
    have hv := (h.pcs _ (List.mem_of_getElem? hg)).1 v rfl
    exact ⟨fun w hw => by cases hw; exact hv, h.pcs_set g (by simp [hv])⟩
  · exact h                                                                   -- already returned

theorem cacheInv_run (c : Caps) {s : CacheState} (h : CacheInv c s) (sched : List Nat) :
    CacheInv c (cacheRun c s sched) := by
  induction sched generalizing s with
  | nil => exact h
  | cons g gs ih => exact ih (cacheInv_step c s g h)

/-- **Every interleaving of any number of goroutines' first calls keeps the invariant**: every call
    that has returned, returned `deduce c`, and the cache holds nothing else. -/
theorem cache_stable (c : Caps) (g : Nat) (sched : List Nat) : CacheInv c (cacheRun c (CacheState.init g) sched) :=
  cacheInv_run c (cacheInv_init c g) sched

/-- corollary in the property's words: whatever the schedule, a returned classification is the
    documented one -/
theorem returned_value_correct (c : Caps) (g : Nat) (sched : List Nat) (i : Nat) (v : MT)
    (h : (cacheRun c (CacheState.init g) sched).pcs[i]? = some (.done v)) : v = deduce c :=
  ((cache_stable c g sched).pcs _ (List.mem_of_getElem? h)).2 v rfl

/-- the first satisfied probe wins -/
theorem firstProbe_head (p : String) (ps : List String) (has : String → Bool) (h : has p = true) :
    firstProbe (p :: ps) has = some p := by simp [firstProbe, List.find?, h]

theorem firstProbe_none (ps : List String) (has : String → Bool) (h : ∀ p ∈ ps, has p = false) :
    firstProbe ps has = none := by
  unfold firstProbe
  exact List.find?_eq_none.mpr (fun p hp => by simp [h p hp])

/-! ## `Equal` (and the one-argument functions) hand the owning runtime's result through

  The runtimes' relations are abstract and not assumed reflexive (Gogo: `==` on floats, so a message
  holding a NaN differs from itself).  That the source's `Equal` has exactly the shape of `shimEqual` —
  classification of both arguments, one comparison of the two classes, then a direct `return` of the
  runtime's call in every arm and nothing in between — is `Bridge.shimFrame_ok` / `Bridge.shimArms_ok`;
  the harness sends every argument pair it tries (same pointer, clones, wire copies, …) through
  `shimEqual` and compares with `csproto.Equal`. -/

/-- `shimEqual` in closed form; `samePtr` does not occur -/
theorem shimEqual_eq (t1 t2 : MT) (same rt : Bool) :
    shimEqual t1 t2 same rt = (t1 == t2 && t1 != .unknown && rt) := by
  cases t1 <;> cases t2 <;> rfl

/-- the short cut is `shimEqual` with the runtime's answer overridden on same-pointer pairs -/
theorem shimEqualShortcut_eq (t1 t2 : MT) (same rt : Bool) :
    shimEqualShortcut t1 t2 same rt = shimEqual t1 t2 same (if same then true else rt) := by
  cases t1 <;> cases t2 <;> rfl

/-- **for two messages of one supported class the answer is the runtime's**, whatever the pair is -/
theorem equal_transparent (t : MT) (same rt : Bool) (h : t ≠ .unknown) : shimEqual t t same rt = rt := by
  simp [shimEqual_eq, h]

/-- messages of different classes are never equal -/
theorem equal_cross_class (t1 t2 : MT) (same rt : Bool) (h : t1 ≠ t2) : shimEqual t1 t2 same rt = false := by
  simp [shimEqual_eq, h]

/-- values of unsupported types are never equal to anything (documented zero result) -/
theorem equal_unsupported (t2 : MT) (same rt : Bool) :
    shimEqual .unknown t2 same rt = false ∧ shimEqual t2 .unknown same rt = false := by
  simp [shimEqual_eq]

/-- **pointer identity of the two arguments is never consulted** -/
theorem equal_ignores_identity (t1 t2 : MT) (s1 s2 rt : Bool) : shimEqual t1 t2 s1 rt = shimEqual t1 t2 s2 rt := rfl

/-- a dispatcher with a same-pointer short cut agrees with the runtime on `(m, m)` **iff** the runtime's
    relation is reflexive at `m` — which the shim cannot know -/
theorem shortcut_transparent_iff (t : MT) (rt : Bool) (h : t ≠ .unknown) :
    shimEqualShortcut t t true rt = shimEqual t t true rt ↔ rt = true := by
  rw [shimEqualShortcut_eq, equal_transparent t _ _ h, equal_transparent t _ _ h]
  exact eq_comm

/-- witness: a Gogo message that its runtime does not consider equal to itself (it holds a NaN) -/
theorem shortcut_witness : shimEqualShortcut .gogo .gogo true false ≠ shimEqual .gogo .gogo true false := by decide

/-- off the diagonal the short cut changes nothing: only same-pointer pairs can expose it -/
theorem shortcut_only_on_same_pointer (t1 t2 : MT) (rt : Bool) :
    shimEqualShortcut t1 t2 false rt = shimEqual t1 t2 false rt :=
  shimEqualShortcut_eq t1 t2 false rt

/-- Clone / MarshalText / …: the runtime's result, unchanged, for every supported class; the zero result otherwise -/
theorem unary_transparent {α : Type} (t : MT) (rt : α) :
    (t ≠ .unknown → shimUnary t rt = some rt) ∧ (t = .unknown → shimUnary t rt = none) := by
  cases t <;> simp [shimUnary]

/-- non-vacuity -/
example : (cacheRun googleV2Caps (CacheState.init 3) [0, 1, 0, 2, 1, 0, 1, 2, 2]).cache = some .google := by decide +kernel

end Csproto.C11
