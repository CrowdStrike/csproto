import Csproto.Model.Conc
import Csproto.Props.C14
/-
  C15 — A lazy Decoder can be shared by concurrent goroutines.

  What a Lean model can carry: the *ownership discipline*.  Under every interleaving, an object is
  held by at most one goroutine at a time and is never simultaneously pooled and held; consequently
  two accesses to the same object by different goroutines are always separated by a `Put` of one
  and a `Get` of the other (which `sync.Pool` orders), and the shared tables are only read.  What
  each goroutine then observes is the sequential semantics on objects it holds exclusively — i.e.
  C14: a recycled object is cleared, so the values are those of the goroutine's own input.
  Data-race freedom in the sense of the Go memory model itself is NOT carried by the model; the race
  detector run of the check is supporting evidence only.

  The model has exactly two kinds of locations — objects and the constructor-written tables.  That the
  code has no third kind is a regenerated fact: `Bridge.no_package_level_state_mutated` (no function of
  lazyproto mutates a package-level variable at run time; `Bridge/LazyWrites.lean`, fact F17) next to
  `Bridge.shared_written_only_by_constructors` / `Bridge.writes_classified` (field writes, fact F15).
  What a goroutine was HANDED (byte slices, strings, typed slices) is Go aliasing, not in the model: in
  safe mode the values must be copies (`Bridge.lazyAccessors_ok` pins the cloning accessors), and the
  check keeps every value across `Close` and later decodes, in-process and under the race detector.
-/
namespace Csproto.C15
open Csproto

/-- every known object is in exactly one place: the pool (once) or held by one goroutine (once) -/
structure Inv (s : CState) : Prop where
  poolNodup : s.pool.Nodup
  ownedObjsNodup : (s.owned.map (·.2)).Nodup
  disjoint : ∀ obj, obj ∈ s.pool → obj ∉ s.owned.map (·.2)
  known : ∀ obj, (obj ∈ s.pool ∨ obj ∈ s.owned.map (·.2)) → obj ∈ s.known

theorem inv_init : Inv CState.init := ⟨by simp [CState.init], by simp [CState.init], by simp [CState.init], by simp [CState.init]⟩

theorem map_erase_sub {l : List (Nat × Nat)} {x : Nat × Nat} {o : Nat} (h : o ∈ (l.erase x).map (·.2)) : o ∈ l.map (·.2) :=
  (List.erase_sublist.map _).subset h

theorem nodup_map_erase {l : List (Nat × Nat)} (x : Nat × Nat) (h : (l.map (·.2)).Nodup) : ((l.erase x).map (·.2)).Nodup :=
  h.sublist (List.erase_sublist.map _)

/-- returning the one entry for `obj` leaves none: up to order, `l` is that entry in front of the rest -/
theorem erased_not_mem {l : List (Nat × Nat)} {g obj : Nat} (hn : (l.map (·.2)).Nodup) (hm : (g, obj) ∈ l) :
    obj ∉ (l.erase (g, obj)).map (·.2) :=
  (List.nodup_cons.mp (((List.perm_cons_erase hm).map (·.2)).nodup_iff.mp hn)).1

theorem owner_unique {l : List (Nat × Nat)} (hn : (l.map (·.2)).Nodup) {g1 g2 obj : Nat}
    (h1 : (g1, obj) ∈ l) (h2 : (g2, obj) ∈ l) : g1 = g2 := by
  -- a second owner's entry would survive erasing the first, so `obj` would still be among the owned objects
  apply Decidable.byContradiction
  intro hne
  have hpair : (g2, obj) ≠ (g1, obj) := fun e => hne (Prod.mk.inj e).1.symm
  have h2' : (g2, obj) ∈ l.erase (g1, obj) := (List.mem_erase_of_ne hpair).mpr h2
  exact erased_not_mem hn h1 (List.mem_map.mpr ⟨(g2, obj), h2', rfl⟩)

theorem inv_step (s : CState) (st : CStep) (hi : Inv s) (he : s.enabled st = true) : Inv (s.step st) := by
  cases st with
  | getNew g obj =>
    have hfresh : obj ∉ s.known := by simpa [CState.enabled] using he
    refine ⟨hi.poolNodup, ?_, ?_, ?_⟩
    · simp only [CState.step, List.map_cons, List.nodup_cons]
      exact ⟨fun h => hfresh (hi.known obj (Or.inr h)), hi.ownedObjsNodup⟩
    · intro o ho
      simp only [CState.step, List.map_cons, List.mem_cons, not_or]
      exact ⟨fun e => hfresh (by rw [← e]; exact hi.known o (Or.inl ho)), hi.disjoint o ho⟩
    · intro o ho
      simp only [CState.step, List.map_cons, List.mem_cons] at ho ⊢
      rcases ho with h | h | h
      · exact Or.inr (hi.known o (Or.inl h))
      · exact Or.inl h
      · exact Or.inr (hi.known o (Or.inr h))
  | getPooled g obj =>
    have hin : obj ∈ s.pool := by simpa [CState.enabled] using he
    refine ⟨hi.poolNodup.erase obj, ?_, ?_, ?_⟩
    · simp only [CState.step, List.map_cons, List.nodup_cons]
      exact ⟨hi.disjoint obj hin, hi.ownedObjsNodup⟩
    · intro o ho
      simp only [CState.step] at ho ⊢
      have ho' := List.mem_of_mem_erase ho
      simp only [List.map_cons, List.mem_cons, not_or]
      refine ⟨?_, hi.disjoint o ho'⟩
      intro e; subst e
      exact (List.Nodup.mem_erase_iff hi.poolNodup).mp ho |>.1 rfl
    · intro o ho
      simp only [CState.step, List.map_cons, List.mem_cons] at ho ⊢
      rcases ho with h | h | h
      · exact hi.known o (Or.inl (List.mem_of_mem_erase h))
      · exact hi.known o (Or.inl (h ▸ hin))
      · exact hi.known o (Or.inr h)
  | put g obj =>
    have hin : (g, obj) ∈ s.owned := by simpa [CState.enabled] using he
    have hobj : obj ∈ s.owned.map (·.2) := List.mem_map.mpr ⟨(g, obj), hin, rfl⟩
    refine ⟨?_, nodup_map_erase _ hi.ownedObjsNodup, ?_, ?_⟩
    · simp only [CState.step, List.nodup_cons]
      exact ⟨fun h => hi.disjoint obj h hobj, hi.poolNodup⟩
    · intro o ho
      simp only [CState.step, List.mem_cons] at ho ⊢
      rcases ho with e | h
      · subst e; exact erased_not_mem hi.ownedObjsNodup hin
      · exact fun hm => hi.disjoint o h (map_erase_sub hm)
    · intro o ho
      simp only [CState.step, List.mem_cons] at ho
      rcases ho with (e | h) | h
      · exact hi.known o (Or.inr (e ▸ hobj))
      · exact hi.known o (Or.inl h)
      · exact hi.known o (Or.inr (map_erase_sub h))
  | access g obj w => exact hi
  | readShared g => exact hi

theorem run_cons {s s' : CState} {st : CStep} {rest : List CStep} (h : s.run (st :: rest) = some s') :
    s.enabled st = true ∧ (s.step st).run rest = some s' := by
  rw [CState.run] at h
  by_cases he : s.enabled st = true
  · rw [if_pos he] at h; exact ⟨he, h⟩
  · rw [if_neg he] at h; cases h

/-- **Every interleaving keeps the invariant.** -/
theorem inv_run : ∀ (sched : List CStep) (s s' : CState), Inv s → s.run sched = some s' → Inv s'
  | [], s, s', hi, h => by cases h; exact hi
  | st :: rest, s, s', hi, h => inv_run rest _ s' (inv_step s st hi (run_cons h).1) (run_cons h).2

/-- **Exclusive ownership.** In every reachable state no object is held by two goroutines, and no
    held object is in the pool: all accesses to an object between its `Get` and its `Put` are by one
    goroutine. -/
theorem exclusive (sched : List CStep) (s : CState) (h : CState.init.run sched = some s)
    (g1 g2 obj : Nat) (h1 : (g1, obj) ∈ s.owned) (h2 : (g2, obj) ∈ s.owned) : g1 = g2 ∧ obj ∉ s.pool := by
  have hi := inv_run sched _ s inv_init h
  exact ⟨owner_unique hi.ownedObjsNodup h1 h2,
    fun hp => hi.disjoint obj hp (List.mem_map.mpr ⟨(g1, obj), h1, rfl⟩)⟩

/-- an owner keeps the object until it puts it back -/
theorem owner_persists : ∀ (mid : List CStep) (s s' : CState) (g obj : Nat), s.run mid = some s' →
    (g, obj) ∈ s.owned → CStep.put g obj ∉ mid → (g, obj) ∈ s'.owned
  | [], s, s', g, obj, hr, ho, _ => by cases hr; exact ho
  | st :: rest, s, s', g, obj, hr, ho, hnp => by
    have hne : st ≠ .put g obj := fun e => hnp (by simp [e])
    have ho' : (g, obj) ∈ (s.step st).owned := by
      cases st with
      | getNew g' o => exact List.mem_cons_of_mem _ ho
      | getPooled g' o => exact List.mem_cons_of_mem _ ho
      | put g' o =>
        have : (g, obj) ≠ (g', o) := fun e => hne (by rw [(Prod.mk.inj e).1, (Prod.mk.inj e).2])
        exact (List.mem_erase_of_ne this).mpr ho
      | access g' o w => exact ho
      | readShared g' => exact ho
    exact owner_persists rest _ s' g obj (run_cons hr).2 ho' (fun h => hnp (List.mem_cons_of_mem _ h))

/-- a goroutine can come to hold an already existing object only through `pool.Get` -/
theorem acquire_via_pool : ∀ (mid : List CStep) (s s' : CState) (g obj : Nat), s.run mid = some s' →
    obj ∈ s.known → (g, obj) ∉ s.owned → (g, obj) ∈ s'.owned → CStep.getPooled g obj ∈ mid
  | [], s, s', g, obj, hr, _, hno, ho => by cases hr; exact absurd ho hno
  | st :: rest, s, s', g, obj, hr, hk, hno, ho => by
    obtain ⟨he, hr⟩ := run_cons hr
    by_cases hx : st = .getPooled g obj
    · simp [hx]
    · have hk' : obj ∈ (s.step st).known := by cases st <;> simp [CState.step, hk]
      have hno' : (g, obj) ∉ (s.step st).owned := by
        cases st with
        | getNew g' o =>
          have hf : o ∉ s.known := by simpa [CState.enabled] using he
          simp only [CState.step, List.mem_cons, not_or]
          exact ⟨fun e => hf ((Prod.mk.inj e).2 ▸ hk), hno⟩
        | getPooled g' o =>
          simp only [CState.step, List.mem_cons, not_or]
          exact ⟨fun e => hx (by rw [(Prod.mk.inj e).1, (Prod.mk.inj e).2]), hno⟩
        | put g' o => exact fun h => hno (List.mem_of_mem_erase h)
        | access g' o w => exact hno
        | readShared g' => exact hno
      exact List.mem_cons_of_mem _ (acquire_via_pool rest _ s' g obj hr hk' hno' ho)

/-- **Conflicting accesses are ordered by the pool.** If goroutine `g1` accesses `obj` and later in
    the schedule a different goroutine `g2` accesses it, then in between `g1` put it back and `g2`
    got it from the pool — the two operations `sync.Pool` orders by happens-before. -/
theorem accesses_ordered (pre mid : List CStep) (s0 s1 : CState) (g1 g2 obj : Nat) (w1 w2 : Bool)
    (h0 : CState.init.run pre = some s0) (ha1 : s0.enabled (.access g1 obj w1) = true)
    (hmid : s0.run mid = some s1) (ha2 : s1.enabled (.access g2 obj w2) = true) (hne : g1 ≠ g2) :
    CStep.put g1 obj ∈ mid ∧ CStep.getPooled g2 obj ∈ mid := by
  have hi0 := inv_run pre _ s0 inv_init h0
  have hi1 := inv_run mid s0 s1 hi0 hmid
  have own1 : (g1, obj) ∈ s0.owned := by simpa [CState.enabled] using ha1
  have own2 : (g2, obj) ∈ s1.owned := by simpa [CState.enabled] using ha2
  constructor
  · -- otherwise g1 would still hold it, together with g2
    apply Classical.byContradiction
    intro hnp
    have := owner_persists mid s0 s1 g1 obj hmid own1 hnp
    exact hne (owner_unique hi1.ownedObjsNodup this own2)
  · have hk : obj ∈ s0.known := hi0.known obj (Or.inr (List.mem_map.mpr ⟨(g1, obj), own1, rfl⟩))
    have hno : (g2, obj) ∉ s0.owned := fun h => hne (owner_unique hi0.ownedObjsNodup own1 h)
    exact acquire_via_pool mid s0 s1 g2 obj hmid hk hno own2

/-- the shared tables are never written: no step of the model writes them (they are only read) -/
theorem shared_tables_read_only (s : CState) (g : Nat) : s.step (.readShared g) = s := rfl

/-! ## non-vacuity: a schedule in which two goroutines recycle one object -/
example : (CState.init.run [.getNew 1 0, .access 1 0 true, .put 1 0, .getPooled 2 0, .access 2 0 true, .put 2 0]).isSome = true := by
  decide

end Csproto.C15
