import Csproto.Props.C11
import Csproto.Bridge.Shim
/-
  C04, proto2 extensions — Size() and MarshalTo() agree during the (concurrent) first use of a type.

  The generated `Size()` and `MarshalTo()` of a message type with known extensions ask, per extension,
  `csproto.HasExtension(m, E_x)` (then `GetExtension`), and these dispatch on `csproto.MsgType(m)`: for the
  classification `MessageTypeUnknown` `HasExtension` answers `false` — the extension is skipped.  `Size()` and
  `MarshalTo()` are separate calls, so they agree only if every `MsgType` call made on the way returns the
  same classification.  That is a statement about the first-use type cache under concurrency
  (`Model/Shim.lean`: `cacheStep`, one atomic action of one goroutine; `C11.cache_stable`).

  * `agree_when_answers_constant` — equal answers ⇒ the extension part of `Size()` equals the bytes written;
  * `first_use_agree`             — every answer that any goroutine obtains under ANY schedule of first calls is
                                    `deduce c` (C11), so the two parts agree whenever the calls happen;
  * `placeholder_answer_breaks_it`— non-vacuity: one `unknown` answer during `Size()` (what a cache protocol
                                    that publishes a placeholder before the classification would hand to the
                                    goroutines that lose the race) makes `Size()` smaller than what is written;
  * `fact_type_cache_protocol`    — the regenerated fact: `MsgType` is nil check, `Load`, `deduceMsgType`, `Store`
                                    (nothing is stored before the classification is known).
-/
namespace Csproto.C04Ext
open Csproto

/-- per known extension of the type: `none` — not set; `some n` — set, its key + value take `n` bytes -/
abbrev Exts := List (Option Nat)

/-- `csproto.HasExtension` under the classification `MsgType` answered -/
def hasExt (ans : MT) (x : Option Nat) : Bool := ans != .unknown && x.isSome

/-- the extension part of `Size()` (resp. the bytes `MarshalTo` writes for extensions), given the answer of
    the `MsgType` call made for each extension in turn -/
def extBytes : List MT → Exts → Nat
  | a :: as, x :: xs => (if hasExt a x then x.getD 0 else 0) + extBytes as xs
  | _, _ => 0

theorem agree_when_answers_constant (v : MT) (sizeAns marshalAns : List MT) (xs : Exts)
    (hl : sizeAns.length = marshalAns.length)
    (hs : ∀ a ∈ sizeAns, a = v) (hm : ∀ a ∈ marshalAns, a = v) :
    extBytes sizeAns xs = extBytes marshalAns xs := by
  -- two lists of the same length whose every entry is `v` are the same list
  rw [List.eq_replicate_of_mem hs, List.eq_replicate_of_mem hm, hl]

/-- an answer obtained by some goroutine's completed `MsgType` call in some run of first calls -/
def Obtained (c : Caps) (a : MT) : Prop :=
  ∃ (g : Nat) (sched : List Nat) (i : Nat), (cacheRun c (CacheState.init g) sched).pcs[i]? = some (.done a)

/-- **during the first use of a type, under every schedule, `Size()` and `MarshalTo()` see the same
    extensions**: all answers are the one classification `deduce c` -/
theorem first_use_agree (c : Caps) (sizeAns marshalAns : List MT) (xs : Exts)
    (hl : sizeAns.length = marshalAns.length)
    (hs : ∀ a ∈ sizeAns, Obtained c a) (hm : ∀ a ∈ marshalAns, Obtained c a) :
    extBytes sizeAns xs = extBytes marshalAns xs := by
  have correct : ∀ a, Obtained c a → a = deduce c :=
    fun a ⟨g, sched, i, h⟩ => C11.returned_value_correct c g sched i a h
  exact agree_when_answers_constant (deduce c) sizeAns marshalAns xs hl
    (fun a ha => correct a (hs a ha)) (fun a ha => correct a (hm a ha))

/-- non-vacuity: a single `unknown` answer while sizing (the placeholder a "claim the entry first" protocol
    would return to a goroutine that lost the race) and the real one while marshaling: `Size()` is 27 bytes
    short of what `MarshalTo` writes into the `Size()`-byte buffer -/
theorem placeholder_answer_breaks_it :
    extBytes [.unknown] [some 27] = 0 ∧ extBytes [.google] [some 27] = 27 := by decide

/-- the regenerated fact the cache model stands on -/
theorem fact_type_cache_protocol :
    Generated.msgTypeProtocol = ["nilcheck", ".Load", "deduceMsgType", ".Store"] := Bridge.msgTypeProtocol_ok

end Csproto.C04Ext
