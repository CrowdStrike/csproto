import Csproto.Bridge.SkipFuncs
import Csproto.Proofs.Skip
/-
  C02 (the Skip clause) for the SOURCE: stated about the functions TRANSLATED from `/repo`'s current decoder.go.
-/
set_option linter.unusedVariables false
namespace Csproto.C02.Source
open Csproto Csproto.Generated.WireFuncs Csproto.Bridge Csproto.Bridge.WireFuncs Csproto.Bridge.DecoderFuncs Csproto.Bridge.SkipFuncs

/-- `source_skip_field` for a buffer `P` given up to associativity, and without a condition on the key span the decoder
    remembered: `DecodeTag` overwrites it -/
theorem skip_field (fuel : Nat) (hf : 11 ≤ fuel) (pre payload post P : Bytes) (off mode ks ke tag wt : BitVec 64)
    (hP : P = pre ++ (encTag tag.toNat wt.toNat ++ (payload ++ post)))
    (hlen : P.length < 2 ^ 62) (hoff : off.toNat = pre.length)
    (ht1 : 1 ≤ tag.toNat) (ht : tag.toNat ≤ 536870911) (hw : WFPayload wt.toNat payload) :
    ∃ sd, Decoder_DecodeTag fuel P off mode ks ke = .ret (tag, wt, .nil) sd ∧
      ∃ s2, Decoder_Skip fuel sd.d_p sd.d_offset sd.d_mode sd.d_keyStart sd.d_keyEnd tag wt =
          .ret (encTag tag.toNat wt.toNat ++ payload, .nil) s2 ∧
        s2.d_offset.toNat = pre.length + (encTag tag.toNat wt.toNat ++ payload).length ∧ s2.d_p = P := by
  have hPl : pre.length + (encTag tag.toNat wt.toNat).length ≤ P.length := by
    rw [hP, List.length_append, List.length_append, ← Nat.add_assoc]
    exact Nat.le_add_right _ _
  have hat : (decOf P off ks ke (mode != 0#64)).At pre (encTag tag.toNat wt.toNat ++ (payload ++ post)) := ⟨hP, hoff⟩
  obtain ⟨t, w, e, sd, hdt, hdp, hdm, hmatch⟩ := DecodeTag_refines fuel hf P off mode ks ke (mode != 0#64)
    (Nat.lt_trans hlen (by decide)) (hoff ▸ Nat.le_trans (Nat.le_add_right _ _) hPl)
  rw [Dec.tag_at hat ht1 ht hw.wt_lt] at hmatch
  obtain ⟨rfl, htn, hwn, hso, hsks, hske⟩ := hmatch
  obtain rfl : tag = t := (BitVec.eq_of_toNat_eq htn).symm
  obtain rfl : wt = w := (BitVec.eq_of_toNat_eq hwn).symm
  refine ⟨sd, hdt, ?_⟩
  replace hso : sd.d_offset.toNat = pre.length + (encTag tag.toNat wt.toNat).length := hso.trans (congrArg (· + _) hoff)
  replace hsks : sd.d_keyStart.toNat = pre.length := hsks.trans hoff
  replace hske : sd.d_keyEnd.toNat = pre.length + (encTag tag.toNat wt.toNat).length := hske.trans (congrArg (· + _) hoff)
  have hd2 : decOf sd.d_p sd.d_offset sd.d_keyStart sd.d_keyEnd (sd.d_mode != 0#64) =
      (decOf P off ks ke (mode != 0#64)).afterTag (encTag tag.toNat wt.toNat).length := by
    simp only [decOf, Dec.afterTag, hdp, hdm, hso, hsks, hske, hoff]
  obtain ⟨b, e2, s2, hsr, hs2p, _, _, _, hm2⟩ :=
    Skip_refines fuel hf sd.d_p sd.d_offset sd.d_mode sd.d_keyStart sd.d_keyEnd tag wt
      (hdp ▸ hlen) (hdp ▸ hso ▸ hPl) (hdp ▸ hsks ▸ Nat.le_trans (Nat.le_add_right _ _) hPl) (hdp ▸ hske ▸ hPl)
  rw [show (decOf sd.d_p sd.d_offset sd.d_keyStart sd.d_keyEnd (sd.d_mode != 0#64)).step (.skip tag.toNat wt.toNat) = _ from
    congrArg (withAlloc · 0) (Dec.skip_at (pre := pre) (post := post) ht1 ht hw (hd2 ▸ hat.afterTag) (hd2 ▸ fun _ => hoff))] at hm2
  obtain ⟨rfl, rfl, ho2⟩ := hm2
  refine ⟨s2, hsr, ?_, hs2p.trans hdp⟩
  rw [ho2, List.length_append, ← Nat.add_assoc]
  exact congrArg (· + _) hso

/-- Let the buffer be `pre ++ key ++ payload ++ post` where `key` is the canonical key of a field number 1 … 2^29-1 with one of
    the four supported wire types and `payload` a payload a conforming writer emits for that wire type (`WFPayload`: a canonical
    varint, 8 bytes, 4 bytes, or a length prefix followed by that many bytes).  A Decoder whose cursor stands at the start of the
    key — in safe or fast mode, whatever key span inside the buffer it remembered — reads the key with the source's `DecodeTag()`
    and then the source's `Skip(tag, wireType)` returns EXACTLY `key ++ payload` (the field's complete raw encoding), reports no
    error, and leaves the cursor at the first byte of `post`: concatenating what successive Skips return reproduces the input. -/
theorem source_skip_field (fuel : Nat) (hf : 11 ≤ fuel) (pre payload post : Bytes) (off mode ks ke tag wt : BitVec 64)
    (hlen : (pre ++ encTag tag.toNat wt.toNat ++ payload ++ post).length < 2 ^ 62)
    (hoff : off.toNat = pre.length)
    (hks : ks.toNat ≤ (pre ++ encTag tag.toNat wt.toNat ++ payload ++ post).length)
    (hke : ke.toNat ≤ (pre ++ encTag tag.toNat wt.toNat ++ payload ++ post).length)
    (ht1 : 1 ≤ tag.toNat) (ht : tag.toNat ≤ 536870911) (hw : WFPayload wt.toNat payload) :
    ∃ sd, Decoder_DecodeTag fuel (pre ++ encTag tag.toNat wt.toNat ++ payload ++ post) off mode ks ke = .ret (tag, wt, .nil) sd ∧
      ∃ s2, Decoder_Skip fuel sd.d_p sd.d_offset sd.d_mode sd.d_keyStart sd.d_keyEnd tag wt =
          .ret (encTag tag.toNat wt.toNat ++ payload, .nil) s2 ∧
        s2.d_offset.toNat = pre.length + (encTag tag.toNat wt.toNat ++ payload).length ∧
        s2.d_p = pre ++ encTag tag.toNat wt.toNat ++ payload ++ post := by
  exact skip_field fuel hf pre payload post _ off mode ks ke tag wt (by simp only [List.append_assoc]) hlen hoff ht1 ht hw

end Csproto.C02.Source
