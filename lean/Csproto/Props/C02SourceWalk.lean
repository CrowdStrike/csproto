import Csproto.Props.C02Source
/-
  C02, the Skip clause in full, for the SOURCE: `skip_walk` — a walk with the translated `DecodeTag` / `Skip` over any number
  of well-formed fields returns exactly the fields (concatenating the skipped slices reproduces the input) and ends on the
  byte after the last field.
-/
namespace Csproto.C02.Source
open Csproto Csproto.Generated.WireFuncs Csproto.Bridge Csproto.Bridge.WireFuncs Csproto.Bridge.DecoderFuncs Csproto.Bridge.SkipFuncs

/-- a field: number, wire type, payload; `Fld.WF`: a number 1 … 2^29-1 and a payload a conforming writer emits for the wire type -/
structure Fld where
  tag : BitVec 64
  wt : BitVec 64
  payload : Bytes

def Fld.WF (f : Fld) : Prop := 1 ≤ f.tag.toNat ∧ f.tag.toNat ≤ 536870911 ∧ WFPayload f.wt.toNat f.payload
def Fld.bytes (f : Fld) : Bytes := encTag f.tag.toNat f.wt.toNat ++ f.payload

/-- one step of a client's skip walk on the translated source: `DecodeTag()` then `Skip(tag, wt)`; returns the skipped slice and
    the decoder's fields afterwards -/
def skipStep (fuel : Nat) (p : Bytes) (off mode ks ke : BitVec 64) : Option (Bytes × BitVec 64 × BitVec 64 × BitVec 64) :=
  match Decoder_DecodeTag fuel p off mode ks ke with
  | .ret (t, w, .nil) sd =>
    match Decoder_Skip fuel sd.d_p sd.d_offset sd.d_mode sd.d_keyStart sd.d_keyEnd t w with
    | .ret (b, .nil) s2 => some (b, s2.d_offset, s2.d_keyStart, s2.d_keyEnd)
    | _ => none
  | _ => none

/-- the walk over `n` fields -/
def skipWalk (fuel : Nat) (p : Bytes) (mode : BitVec 64) : Nat → BitVec 64 → BitVec 64 → BitVec 64 → Option (List Bytes × BitVec 64)
  | 0, off, _, _ => some ([], off)
  | n + 1, off, ks, ke =>
    match skipStep fuel p off mode ks ke with
    | some (b, off', ks', ke') =>
      match skipWalk fuel p mode n off' ks' ke' with
      | some (bs, o) => some (b :: bs, o)
      | none => none
    | none => none

theorem skip_step (fuel : Nat) (hf : 11 ≤ fuel) (pre post : Bytes) (f : Fld) (off mode ks ke : BitVec 64)
    (hlen : (pre ++ f.bytes ++ post).length < 2 ^ 62) (hoff : off.toNat = pre.length) (hwf : f.WF) :
    ∃ off' ks' ke', skipStep fuel (pre ++ f.bytes ++ post) off mode ks ke = some (f.bytes, off', ks', ke') ∧
      off'.toNat = pre.length + f.bytes.length := by
  obtain ⟨sd, hdt, s2, hsr, ho, -⟩ := skip_field fuel hf pre f.payload post _ off mode ks ke f.tag f.wt
    (by simp only [Fld.bytes, List.append_assoc]) hlen hoff hwf.1 hwf.2.1 hwf.2.2
  refine ⟨s2.d_offset, s2.d_keyStart, s2.d_keyEnd, ?_, ho⟩
  unfold skipStep
  rw [hdt]
  simp only
  rw [hsr]
  rfl

/-- `skip_walk` whatever key span the decoder remembers at the start: the first `DecodeTag` overwrites it -/
theorem skip_walk_any (fuel : Nat) (hf : 11 ≤ fuel) (mode : BitVec 64) : ∀ (fs : List Fld) (pre post : Bytes) (off ks ke : BitVec 64),
    (pre ++ (fs.map Fld.bytes).flatten ++ post).length < 2 ^ 62 → off.toNat = pre.length → (∀ f ∈ fs, f.WF) →
    ∃ o, skipWalk fuel (pre ++ (fs.map Fld.bytes).flatten ++ post) mode fs.length off ks ke = some (fs.map Fld.bytes, o) ∧
      o.toNat = pre.length + (fs.map Fld.bytes).flatten.length := by
  intro fs
  induction fs with
  | nil => intro pre post off ks ke _ hoff _; exact ⟨off, rfl, by simp [hoff]⟩
  | cons f r ih =>
    intro pre post off ks ke hlen hoff hwf
    have hbuf : pre ++ ((f :: r).map Fld.bytes).flatten ++ post = pre ++ f.bytes ++ ((r.map Fld.bytes).flatten ++ post) := by simp
    have hbuf2 : pre ++ f.bytes ++ ((r.map Fld.bytes).flatten ++ post) = (pre ++ f.bytes) ++ (r.map Fld.bytes).flatten ++ post := by simp
    rw [hbuf] at hlen ⊢
    obtain ⟨off', ks', ke', hstep, ho'⟩ := skip_step fuel hf pre ((r.map Fld.bytes).flatten ++ post) f off mode ks ke hlen hoff
      (hwf f (by simp))
    rw [hbuf2] at hlen hstep ⊢
    obtain ⟨o, hw, ho⟩ := ih (pre ++ f.bytes) post off' ks' ke' hlen (by rw [ho']; simp) (fun g hg => hwf g (by simp [hg]))
    refine ⟨o, ?_, ?_⟩
    · simp only [List.length_cons, skipWalk, hstep, hw, List.map_cons]
    · rw [ho]; simp; omega

/-- **The Skip clause of C02 in full, for the source**: a client that walks a buffer `pre ++ field₁ ++ … ++ fieldₙ ++ post` of
    well-formed fields with the source's `DecodeTag()` / `Skip(tag, wt)` gets back exactly `field₁, …, fieldₙ` — so
    concatenating the skipped slices reproduces the input between `pre` and `post` — and ends with the cursor on `post`;
    any number of fields, any mode, whatever key span the decoder remembered at the start. -/
theorem skip_walk (fuel : Nat) (hf : 11 ≤ fuel) (mode : BitVec 64) : ∀ (fs : List Fld) (pre post : Bytes) (off ks ke : BitVec 64),
    (pre ++ (fs.map Fld.bytes).flatten ++ post).length < 2 ^ 62 → off.toNat = pre.length →
    ks.toNat ≤ (pre ++ (fs.map Fld.bytes).flatten ++ post).length → ke.toNat ≤ (pre ++ (fs.map Fld.bytes).flatten ++ post).length →
    (∀ f ∈ fs, f.WF) →
    ∃ o, skipWalk fuel (pre ++ (fs.map Fld.bytes).flatten ++ post) mode fs.length off ks ke = some (fs.map Fld.bytes, o) ∧
      o.toNat = pre.length + (fs.map Fld.bytes).flatten.length :=
  fun fs pre post off ks ke hlen hoff _ _ hwf => skip_walk_any fuel hf mode fs pre post off ks ke hlen hoff hwf

end Csproto.C02.Source
