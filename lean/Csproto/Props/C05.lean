import Csproto.Props.C04
import Csproto.Proofs.GenRoundtrip
import Csproto.Proofs.GenNoMaps
/-
  C05 — Generated Marshal output is what the reference runtime would decode.

  Part 1: what the generated `Marshal()` writes, field by field — *nothing unset is
  emitted, nothing set is dropped, every emitted piece is one well-formed record carrying the field's
  own number and the wire type of its kind*:

  * `marshal_is_concatenation` — the output is the concatenation, in visit order, of the wire bytes of
                                  the per-field encoder calls, then the unknown fields, and nothing else;
  * `unset_emits_nothing`, `implicit_default_emits_nothing`, `empty_list_emits_nothing`
                                — no phantom fields;
  * `explicit_always_emitted`, `implicit_nondefault_emitted`, `negative_zero_is_emitted`
                                — nothing dropped: a set optional/oneof field is written even when it
                                  holds zero / the empty string; a proto3 field is written whenever its
                                  bits are not all zero (‑0.0 included);
  * `scalar_record_shape`       — each scalar call writes `key(number, wire type of kind) ++ payload`.

  Part 2: the output as a sequence, or tree, of well-formed records, and what the reference rule decodes
  from it; that the generated `Unmarshal` computes that rule is `Props/C06.lean` (`roundtrip_*`), which reuses
  the per-kind round-trip theorems of C01.
-/
namespace Csproto.C05
open Csproto Csproto.Gen

theorem marshal_is_concatenation (S : Schema) (md : MD) (fs : List F) (unk : Bytes) (bs : Bytes)
    (hok : OKFields S md fs) (h : marshal S md fs unk = .ok bs) (hm : opsFields S md fs ≠ .err) :
    ∃ ops, opsFields S md fs = .ok ops ∧ bs = Gen.wiresOf ops ++ unk := by
  rcases C04.marshal_total S md fs unk hok with ⟨_, he⟩ | ⟨bs', hb, _, hcase⟩
  · exact absurd he hm
  · rw [h] at hb; cases hb
    rcases hcase with ⟨ops, ho, hbs⟩ | ⟨he, _, _⟩
    · exact ⟨ops, ho, hbs⟩
    · exact absurd he hm

/-- **`MarshalTo` into a recycled buffer**: whatever the caller's buffer (of exactly `Size()` bytes) held
    before, afterwards it holds the fields' records followed by the unknown fields and nothing else — every
    byte of the encoding is stored by some encoder call, no byte of the old contents shows through.  (In the
    model every writer stores all of its bytes; that the writers of encoder.go do is what the C01 encoder
    stream and the dirty-buffer oracle of this property check on the code.) -/
theorem marshalTo_overwrites_any_buffer (S : Schema) (md : MD) (fs : List F) (unk old : Bytes) (ops : List EncOp)
    (hok : OKFields S md fs) (ho : opsFields S md fs = .ok ops)
    (hlen : old.length = sizeFields S md fs + unk.length) :
    ∃ e, ({ buf := old, off := 0 } : Enc).run (ops ++ [.raw unk]) = .ok e ∧ e.buf = Gen.wiresOf ops ++ unk := by
  obtain ⟨e, hr, _, _, hbuf⟩ := run_fills S md fs unk ops hok ho { buf := old, off := 0 } rfl hlen
  exact ⟨e, hr, hbuf⟩

/-- an unset field (nil pointer / nil oneof member) writes nothing -/
theorem unset_emits_nothing (S : Schema) (fd : FD) (h : fd.card ≠ .required) :
    opsField S fd .unset = .ok [] ∧ sizeField S fd .unset = 0 := by
  simp [opsField, sizeField, h]

/-- a proto3 field without presence holding its default writes nothing -/
theorem implicit_default_emits_nothing (S : Schema) (num : Nat) (k : SK) (v : V)
    (h : implicitPresent k v = false) :
    opsField S ⟨num, .sc k, .implicit⟩ (.one v) = .ok [] ∧ sizeField S ⟨num, .sc k, .implicit⟩ (.one v) = 0 := by
  simp [opsField, sizeField, h]

/-- an empty repeated field (packed or not, scalar or message) and an empty map write nothing -/
theorem empty_list_emits_nothing (S : Schema) (fd : FD) :
    opsField S fd (.many []) = .ok [] ∧ sizeField S fd (.many []) = 0 := by
  cases hty : fd.ty with
  | sc k => rw [opsField_many_sc S hty, sizeField_many_sc S hty]; split <;> exact ⟨rfl, rfl⟩
  | msg i => rw [opsField_many_msg S hty]; exact ⟨rfl, by simp only [sizeField, hty]; rfl⟩

/-- a set field with explicit presence (proto2 optional, proto3 optional, oneof member) is written
    whatever its value — zero, false, the empty string / bytes included -/
theorem explicit_always_emitted (S : Schema) (num : Nat) (k : SK) (v : V) (c : Card)
    (hc : c = .explicit ∨ (∃ g, c = .oneof g) ∨ c = .required ∨ c = .always) :
    opsField S ⟨num, .sc k, c⟩ (.one v) = .ok [scalarOp k num v] := by
  rcases hc with rfl | ⟨g, rfl⟩ | rfl | rfl <;> simp [opsField]

/-- a proto3 field without presence is written whenever it differs from the default -/
theorem implicit_nondefault_emitted (S : Schema) (num : Nat) (k : SK) (v : V)
    (h : implicitPresent k v = true) :
    opsField S ⟨num, .sc k, .implicit⟩ (.one v) = .ok [scalarOp k num v] := by
  simp [opsField, h]

/-- ‑0.0 is not the default: its bit pattern is not zero (`math.Float32bits(v) != 0`) -/
theorem negative_zero_is_emitted :
    implicitPresent .float (.num 0x80000000) = true ∧ implicitPresent .double (.num 0x8000000000000000) = true := by
  decide

theorem scalar_record_shape (k : SK) (num : Nat) (v : V) :
    ∃ payload, (scalarOp k num v).wire = encTag num (match k with
        | .fixed32 | .sfixed32 | .float => wtFixed32
        | .fixed64 | .sfixed64 | .double => wtFixed64
        | .string | .bytes => wtLen
        | _ => wtVarint) ++ payload := by
  cases k <;> exact scalarOp_wire_key _ num v

/-- a nested message is written as one length-delimited record holding exactly its own `Marshal()` -/
theorem nested_record_shape (S : Schema) (num i : Nat) (c : Card) (v : V) (body : Bytes)
    (hv : OKMsgV S (S.md i) v) (hb : bytesMsgV S (S.md i) v = .ok body) :
    ∃ op, opsField S ⟨num, .msg i, c⟩ (.one v) = .ok [op] ∧ op.wire = encTag num wtLen ++ encVarint body.length ++ body := by
  have hl := msgV_exact S (S.md i) v body hv hb
  refine ⟨.nested num (sizeMsgV S (S.md i) v) 0 (some body), by simp [opsField, hb], ?_⟩
  simp [EncOp.wire, hl]

/-! ### Part 2: decoding the bytes back

For message types of scalar fields the generated `Marshal` output *is* a sequence of well-formed
records (`wiresW (msgRecs …)`), and decoding it with the reference rule (C06: last one wins, append,
retain) — which the generated `Unmarshal` provably implements — gives the message back with identical
presence, the unknown fields byte for byte. -/

/-- what `Marshal` writes is exactly the records of the fields, in order -/
theorem marshal_records (S : Schema) (md : MD) (fs : List F) (ops : List EncOp)
    (hflat : ∀ fd ∈ md, ∃ k, fd.ty = .sc k) (ho : opsFields S md fs = .ok ops) :
    Gen.wiresOf ops = wiresW (msgRecs 0 md fs) :=
  opsFields_recs S 0 md fs ops hflat ho

/-- the reference rule applied to those records gives the message back -/
theorem records_decode_to_message (md : MD) (fs : List F) (hflat : FlatMD md) (hlen : fs.length = md.length)
    (hsh : ∀ p ∈ md.zip fs, ShapeOK p.1 p.2) :
    (msgRecs 0 md fs).foldl (WRec.apply md) (initFields md, []) = (canonFields md fs, []) := by
  have := msg_fold md [] md fs [] (fun fd hfd => (hflat fd hfd).2.1) hlen hsh
  simpa [initFields] using this

/-- an unset optional field stays unset, a set one stays set (presence is preserved by the round trip) -/
theorem presence_preserved (fd : FD) (v : V) (hc : fd.card = .explicit) :
    canonField fd .unset = .unset ∧ ∃ w, canonField fd (.one v) = .one w := by
  simp [canonField, initField, hc]

/-- what `Marshal` writes is exactly the record tree of the message: one record per set scalar element /
    packed run, one length-delimited record per set message field or list element whose payload is the
    record tree of that message, in declaration order at every level -/
theorem marshal_record_tree (S : Schema) (md : MD) (fs : List F) (ops : List EncOp)
    (hok : OKFields S md fs) (hcl : CleanFs fs) (ho : opsFields S md fs = .ok ops) :
    Gen.wiresOf ops = wiresN (recsFields S 0 md fs) :=
  ops_recsFields S 0 md fs ops hok hcl ho

/-- every record of that tree is a well-formed record of a declared field (own number, wire type of its
    kind, payload within the length limit), at every level -/
theorem record_tree_well_formed (S : Schema) (hS : SchemaOK S) (i : Nat) (fs : List F) (hwf : WFs S (S.md i) fs) :
    OKs S (S.md i) (recsFields S 0 (S.md i) fs) := by
  rw [← recsFieldsM_eq S hS 0 _ fs (hS.noMap i)]
  exact record_treeM_ok S hS.toM i fs (WFs.toM S hS _ fs (hS.noMap i) hwf)

/-- decoding that tree with the record rule gives the message back, presence included, at every level -/
theorem record_tree_decodes_to_message (S : Schema) (hS : SchemaOK S) (i : Nat) (fs : List F) (ops : List EncOp)
    (hwf : WFs S (S.md i) fs) (hex : Excl (S.md i) fs) (ho : opsFields S (S.md i) fs = .ok ops) :
    foldN S (S.md i) (recsFields S 0 (S.md i) fs) (initFields (S.md i), []) = .ok (canonFs S (S.md i) fs, []) := by
  have := fold_fieldsM S hS.toM (S.md i) fs [] hex (hS.toM i).2 (S.md i) fs [] [] ops rfl rfl rfl
    (WFs.toM S hS _ fs (hS.noMap i) hwf) ho
  rwa [canonFs_nil, recsFieldsM_eq S hS _ _ fs (hS.noMap i)] at this

end Csproto.C05
