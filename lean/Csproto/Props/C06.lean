import Csproto.Proofs.GenDec
import Csproto.Proofs.Gen
import Csproto.Proofs.GenRecords
import Csproto.Proofs.GenRoundtrip
import Csproto.Proofs.GenNoMaps
import Csproto.Bridge.Templates
/-
  C06 — Generated Unmarshal agrees with the reference on every valid encoding.

  Part 1: structure of the generated decoder.
  * `dst_independent`        — `Unmarshal` begins with `Reset()` (regenerated fact): in the model it is a
                               function of the input bytes alone;
  * `repeated_accepts_unpacked`, `repeated_accepts_packed`
                             — every packable repeated kind (sfixed32/64 included) takes
                               the packed arm on wire type 2 and the one-element arm on the element's
                               own wire type, so split / mixed encodings concatenate;
  * `order_independent_step` — the loop dispatches on the number just read, never on position;
  * `last_wins_witness`      — **the property is false of the code** for a singular message field that
                               occurs more than once: the generated code replaces, the reference merges.
                               Proved for the model by `rfl` on the witness that the harness replays
                               against the implementation (open finding B9).  The agreement theorems
                               of Part 3 are therefore stated against the code's own rule (`decodeMsgN`:
                               the last occurrence replaces), which is the reference rule whenever no
                               singular message field repeats.
  Parts 2 to 4 (scalar fields, message-typed fields, map entries): agreement with the reference rule on what a
  conforming writer emits, and the round trips.
-/
namespace Csproto.C06
open Csproto Csproto.Gen

/-- the model of `Unmarshal` has no destination argument because of this fact -/
theorem dst_independent : ∀ t ∈ Generated.unmarshalResetsFirst, t.2 = true :=
  Bridge.Templates.unmarshal_resets_first

theorem repeated_accepts_unpacked (k : SK) (pop : DecOp) (d : Dec) (h : packedDecOpOf k = some pop) :
    readRepeated k d (wtOf k) = (readScalar k d (wtOf k)).map fun (x : Dec × V) => (x.1, [x.2]) := by
  simp [readRepeated, h]

theorem repeated_accepts_packed (k : SK) (pop : DecOp) (d d' : Dec) (it : Item) (a : Nat)
    (h : packedDecOpOf k = some pop) (hne : wtLen ≠ wtOf k) (hs : d.step pop = (d', .ok it, a)) :
    readRepeated k d wtLen = .ok (d', itemToVs k it) := by
  simp [readRepeated, h, hne, hs]

/-- every numeric kind is packable (string and bytes are not: one element per key) -/
theorem packable_kinds (k : SK) : (packedDecOpOf k).isSome = (k != .string && k != .bytes) := by
  cases k <;> rfl

theorem order_independent_step (S : Schema) (fast : Bool) (fuel : Nat) (md : MD) (d d1 d2 : Dec) (fs : List F)
    (unk : Bytes) (num wt a idx : Nat) (fd : FD) (f : F)
    (hmore : d.off < d.len) (htag : d.step .tag = (d1, .ok (.tag num wt), a)) (hf : findField md num 0 = some (idx, fd))
    (hstep : fieldStep S fast fuel fd wt d1 (fs.getD idx .unset) = .ok (d2, f)) :
    unmarshalLoop S fast (fuel + 1) md d fs unk = unmarshalLoop S fast fuel md d2 (assign md fs idx fd f) unk := by
  rw [unmarshalLoop_field S fuel fs unk htag hf, hstep]

def sB9 : Schema := [[⟨1, .msg 1, .explicit⟩], [⟨1, .sc .int32, .implicit⟩, ⟨2, .sc .int32, .implicit⟩]]
/-- field 1 twice: `{a:5}` then `{b:7}`; a conforming reader merges them to `{a:5 b:7}` -/
def inB9 : Bytes := [0x0a, 0x02, 0x08, 0x05, 0x0a, 0x02, 0x10, 0x07]

theorem last_wins_witness :
    unmarshal sB9 false (sB9.md 0) inB9 = .ok ([.one (.msg [.one (.num 0), .one (.num 7)] [])], []) := by rfl

/-! ### Part 2: agreement with the reference rule on every valid encoding of scalar fields

`WRec` is one record as a conforming writer emits it for a message of type `md`: an element of a scalar
field (any kind, any presence discipline), a packed run of a repeated scalar field, or a field the type
does not define.  `WRec.apply` is the reference rule for one record — a singular field keeps its LAST
occurrence, a repeated field APPENDS (a packed run appends all its elements), an undefined field is
RETAINED as its raw bytes.  The theorem quantifies over every sequence of such records: any order,
packed / unpacked / split repeated fields, singular fields occurring more than once, unknown fields
anywhere, either decoder mode.  (Message-typed fields and maps are outside `WRec`: Parts 3 and 4.) -/

/-- **generated `Unmarshal` = the fold of the reference rule**, then the required-field check -/
theorem unmarshal_is_reference_fold (S : Schema) (fast : Bool) (md : MD) (rs : List WRec) (hok : ∀ r ∈ rs, r.OK md) :
    unmarshal S fast md (wiresW rs) =
      (if requiredMissing md (rs.foldl (WRec.apply md) (initFields md, [])).1 then .err
       else .ok (rs.foldl (WRec.apply md) (initFields md, []))) :=
  unmarshal_records S fast md rs hok

/-- the same at any point of the loop: from any decoder position, field state and retained bytes -/
theorem loop_is_reference_fold (S : Schema) (fast : Bool) (md : MD) (rs : List WRec) (hok : ∀ r ∈ rs, r.OK md)
    (fuel : Nat) (d : Dec) (pre : Bytes) (fs : List F) (unk : Bytes) (hf : rs.length + 1 ≤ fuel)
    (hAt : d.At pre (wiresW rs)) (hm : d.fast = fast) :
    unmarshalLoop S fast fuel md d fs unk = .ok (rs.foldl (WRec.apply md) (fs, unk)) :=
  loop_records S fast md rs hok fuel d pre fs unk hf hAt hm

/-- fast and safe mode decode every valid encoding to the same value -/
theorem mode_independent (S : Schema) (md : MD) (rs : List WRec) (hok : ∀ r ∈ rs, r.OK md) :
    unmarshal S true md (wiresW rs) = unmarshal S false md (wiresW rs) := by
  rw [unmarshal_records S true md rs hok, unmarshal_records S false md rs hok]

/-- **round trip**: for a message type of scalar fields, `Unmarshal(Marshal(m) ++ unknown)` is `m` with
    identical presence (values normalised to their field width) and the unknown fields byte for byte -/
theorem roundtrip (S : Schema) (fast : Bool) (md : MD) (fs : List F) (urs : List Rec) (ops : List EncOp)
    (hflat : FlatMD md) (hnd : NoDupNums md) (hlen : fs.length = md.length)
    (hv : ∀ p ∈ md.zip fs, ShapeOK p.1 p.2 ∧ ValOK p.1 p.2)
    (hu : ∀ r ∈ urs, r.OK ∧ findField md r.tag 0 = none)
    (ho : opsFields S md fs = .ok ops) :
    unmarshal S fast md (Gen.wiresOf ops ++ Csproto.wiresOf urs) = .ok (canonFields md fs, Csproto.wiresOf urs) :=
  roundtrip_flat S fast md fs urs ops hflat hnd hlen hv hu ho

/-- non-vacuity: a concrete three-field type (implicit int32, optional string, packed sint64), fields out
    of order, the packed field split in a run and a single element, an unknown field in between -/
def mdEx : MD := [⟨1, .sc .int32, .implicit⟩, ⟨2, .sc .string, .explicit⟩, ⟨3, .sc .sint64, .packed⟩]
def rsEx : List WRec :=
  [.packed 2 ⟨3, .sc .sint64, .packed⟩ .sint64 [.num 1, .num 2],
   .scalar 1 ⟨2, .sc .string, .explicit⟩ .string (.bs [0x68, 0x69]),
   .unknown (.varint 9 300),
   .scalar 2 ⟨3, .sc .sint64, .packed⟩ .sint64 (.num 5),
   .scalar 0 ⟨1, .sc .int32, .implicit⟩ .int32 (.num 7),
   .scalar 0 ⟨1, .sc .int32, .implicit⟩ .int32 (.num 8)]
example : ∀ r ∈ rsEx, r.OK mdEx := by
  intro r hr
  simp only [rsEx, List.mem_cons, List.mem_nil_iff, or_false] at hr
  rcases hr with rfl | rfl | rfl | rfl | rfl | rfl
  · -- the packed run of field 3: the field is found and repeated, the run is not empty, both elements fit in 64 bits
    have hvs : ∀ v ∈ [V.num 1, V.num 2], DecValid .sint64 v :=
      List.forall_mem_cons.mpr ⟨(by decide : 1 < two64), List.forall_mem_singleton.mpr (by decide : 2 < two64)⟩
    exact ⟨rfl, rfl, validTag_3, rfl, nofun, hvs, (by decide : 2 ≤ maxFieldLen), nofun, nofun⟩
  · -- field 2, a string of two bytes
    exact ⟨rfl, rfl, validTag_2, (by decide : 2 ≤ maxFieldLen)⟩
  · -- the unknown field 9: a valid varint record whose number the type does not define
    exact ⟨(by decide : 1 ≤ 9 ∧ 9 ≤ maxTagValue ∧ 300 < two64), rfl⟩
  · -- one more element of field 3
    exact ⟨rfl, rfl, validTag_3, (by decide : 5 < two64)⟩
  · -- field 1, first occurrence
    exact ⟨rfl, rfl, validTag_1, trivial⟩
  · -- field 1, second occurrence
    exact ⟨rfl, rfl, validTag_1, trivial⟩

/-! ### Part 3: message-typed fields — nested, repeated, recursive types, any depth

`NRec` extends `WRec` with two more record forms: a message-typed field whose payload is itself a list of
records of the field's message type, and one occurrence of a map field (Part 4).  `decodeMsgN` is the generated
code's rule on such a tree (reset, fold the records, check required fields at every level).  It agrees with the
reference rule except where a singular message field occurs more than once in one message (the code replaces, the
reference merges: finding B9, `last_wins_witness`); a conforming writer's output never does that, which is what
`roundtrip_nested` covers. -/

/-- **generated `Unmarshal` on any well-formed record tree** is the structural decode of that tree -/
theorem unmarshal_is_record_tree_decode (S : Schema) (fast : Bool) (md : MD) (rs : List NRec) (hok : OKs S md rs) :
    unmarshal S fast md (wiresN rs) = decodeMsgN S md rs :=
  unmarshal_nested S fast md rs hok

/-- **round trip with nested messages**: for message types built from scalar fields and message-typed
    fields (singular, repeated, recursive, members of real oneofs with at most one member set; no maps),
    `Unmarshal(Marshal(m) ++ unknown)` is `m` with identical presence at every level, and the unknown fields byte
    for byte -/
theorem roundtrip_nested (S : Schema) (hS : SchemaOK S) (fast : Bool) (i : Nat) (fs : List F) (urs : List Rec)
    (ops : List EncOp) (hwf : WFs S (S.md i) fs) (hex : Excl (S.md i) fs) (hok : OKFields S (S.md i) fs)
    (hu : ∀ r ∈ urs, r.OK ∧ findField (S.md i) r.tag 0 = none)
    (ho : opsFields S (S.md i) fs = .ok ops) :
    unmarshal S fast (S.md i) (Gen.wiresOf ops ++ Csproto.wiresOf urs)
      = .ok (canonFs S (S.md i) fs, Csproto.wiresOf urs) :=
  Gen.roundtrip_nested S hS fast i fs urs ops hwf hex hok hu ho

/-! non-vacuity of Part 3 -/
def sN : Schema := [[⟨1, .sc .int32, .implicit⟩, ⟨2, .msg 0, .explicit⟩, ⟨3, .msg 1, .list⟩, ⟨4, .sc .int32, .oneof 0⟩, ⟨5, .msg 1, .oneof 0⟩],
  [⟨1, .sc .string, .explicit⟩]]
def innerN : List F := [.one (.num 0), .unset, .many [], .one (.num 3), .unset]
def elemsN : List V := [.msg [.one (.bs [0x68])] [], .msg [.unset] []]
def fsN : List F := [.one (.num 7), .one (.msg innerN []), .many elemsN, .unset, .one (.msg [.one (.bs [0x69])] [])]

theorem schemaN_ok : SchemaOK sN
  | 0 => ⟨(by decide : [1, 2, 3, 4, 5].Nodup), by decide⟩
  | 1 => ⟨(by decide : [1].Nodup), by decide⟩
  | _ + 2 => ⟨List.nodup_nil, fun _ h => nomatch h⟩

theorem opsN : ∃ ops, opsFields sN (sN.md 0) fsN = .ok ops := ⟨_, rfl⟩

theorem ok_inner : OKFields sN (sN.md 0) innerN :=
  ⟨⟨validTag_1, trivial⟩,
    trivial,
    ⟨validTag_3, trivial⟩,
    ⟨validTag_4, trivial⟩,
    trivial,
    trivial⟩
theorem ok_str (b : Bytes) (h : b.length ≤ maxFieldLen) : OKFields sN (sN.md 1) [.one (.bs b)] :=
  ⟨⟨validTag_1, h⟩, trivial⟩
theorem ok_unset : OKFields sN (sN.md 1) [.unset] := ⟨trivial, trivial⟩

theorem okN : OKFields sN (sN.md 0) fsN :=
  ⟨⟨validTag_1, trivial⟩,
    ⟨validTag_2, ok_inner⟩,
    ⟨validTag_3, ok_str _ (by decide), ok_unset, trivial⟩,
    trivial,
    ⟨validTag_5, ok_str _ (by decide)⟩,
    trivial⟩

theorem wf_inner : WFs sN (sN.md 0) innerN :=
  ⟨⟨rfl, ⟨validTag_1, trivial⟩, trivial⟩,
    trivial,
    ⟨rfl, validTag_3, trivial⟩,
    ⟨rfl, ⟨validTag_4, trivial⟩, trivial⟩,
    trivial,
    trivial⟩
theorem wf_str (b : Bytes) (h : b.length ≤ maxFieldLen) : WFs sN (sN.md 1) [.one (.bs b)] :=
  ⟨⟨rfl, ⟨validTag_1, h⟩, trivial⟩, trivial⟩
theorem wf_unset : WFs sN (sN.md 1) [.unset] := ⟨trivial, trivial⟩

/-- only fields 4 and 5 of message 0 are members of a oneof; message 1 has none -/
theorem excl0 (fs : List F) (h : fs[3]? = some F.unset ∨ fs[4]? = some F.unset) : Excl (sN.md 0) fs := by
  intro i j fdi fdj g hi hj hgi hgj hne
  have mem : ∀ (k : Nat) (fd : FD), (sN.md 0)[k]? = some fd → fd.card = .oneof g → k = 3 ∨ k = 4 := fun k fd hk hg =>
    match k, hk with
    | 0, hk | 1, hk | 2, hk => by cases hk; cases hg
    | 3, _ => .inl rfl
    | 4, _ => .inr rfl
    | _ + 5, hk => nomatch hk
  rcases mem i fdi hi hgi with rfl | rfl <;> rcases mem j fdj hj hgj with rfl | rfl
  · exact absurd rfl hne
  · exact h
  · exact h.symm
  · exact absurd rfl hne

theorem excl1 (fs : List F) : Excl (sN.md 1) fs := excl_of_all_not_oneof _ rfl fs

theorem wf_top : WFs sN (sN.md 0) fsN :=
  ⟨⟨rfl, ⟨validTag_1, trivial⟩, trivial⟩,
    ⟨rfl, validTag_2, wfv_intro wf_inner ok_inner ⟨_, rfl⟩ (by decide) (excl0 _ (.inr rfl))⟩,
    ⟨rfl, validTag_3, wfv_intro (wf_str _ (by decide)) (ok_str _ (by decide)) ⟨_, rfl⟩ (by decide) (excl1 _),
      wfv_intro wf_unset ok_unset ⟨_, rfl⟩ (by decide) (excl1 _), trivial⟩,
    trivial,
    ⟨rfl, validTag_5, wfv_intro (wf_str _ (by decide)) (ok_str _ (by decide)) ⟨_, rfl⟩ (by decide) (excl1 _)⟩,
    trivial⟩

/-- non-vacuity of `roundtrip_nested`: a recursive type (field 2 of message 0 is message 0), a repeated
    message field with one empty element, a real oneof whose message-typed member is set at the top level
    and whose scalar member is set one level down, and one unknown field after the body -/
theorem roundtrip_nested_example : ∃ ops, unmarshal sN true (sN.md 0) (Gen.wiresOf ops ++ Csproto.wiresOf [.varint 9 300])
    = .ok (canonFs sN (sN.md 0) fsN, Csproto.wiresOf [.varint 9 300]) := by
  obtain ⟨ops, ho⟩ := opsN
  refine ⟨ops, roundtrip_nested sN schemaN_ok true 0 fsN [.varint 9 300] ops wf_top (excl0 _ (Or.inl rfl)) okN ?_ ho⟩
  intro r hr
  simp only [List.mem_cons, List.mem_nil_iff, or_false] at hr
  subst hr
  simp [Rec.OK, Rec.tag, findField, sN, Schema.md, maxTagValue, two64]

/-! ### Part 4: map entries — key and value in either order, omitted, repeated; foreign fields skipped

`NRec.map` is one occurrence of a map field: its payload is any sequence of well-formed records of the
entry type (the key, the value — scalar or message —, fields the entry type does not define), in any
order and any number of times.  `unmarshal_is_record_tree_decode` covers such records: the generated
sub-decoder computes `foldE` (last key / last value win, anything else is skipped), fills in a missing
message value with an empty message, and inserts the entry into the map, replacing an entry with the
same key (`NRec.applyN`).  The lemmas below spell out the consequences the property lists. -/

/-- key and value of a map entry may come in either order -/
theorem map_entry_order_irrelevant (S : Schema) (emd : MD) (ik iv : Nat) (fdk fdv : FD) (kk kv : SK) (vk vv : V)
    (efs : List F) (h : ik ≠ iv) :
    foldE S emd [.flat (.scalar ik fdk kk vk), .flat (.scalar iv fdv kv vv)] efs
      = foldE S emd [.flat (.scalar iv fdv kv vv), .flat (.scalar ik fdk kk vk)] efs := by
  simp only [foldE, NRec.applyE, flatE]
  rw [List.set_comm _ _ h]

/-- a key or value that occurs twice in one entry: the last occurrence wins -/
theorem map_entry_last_wins (S : Schema) (emd : MD) (i : Nat) (fd : FD) (k : SK) (v1 v2 : V) (efs : List F) :
    foldE S emd [.flat (.scalar i fd k v1), .flat (.scalar i fd k v2)] efs
      = foldE S emd [.flat (.scalar i fd k v2)] efs := by
  simp only [foldE, NRec.applyE, flatE, List.set_set]

/-- an entry that omits the key (or the value) keeps the reset value of that field -/
theorem map_entry_omitted_is_default (S : Schema) (emd : MD) (iv : Nat) (fdv : FD) (kv : SK) (vv : V) :
    foldE S emd [.flat (.scalar iv fdv kv vv)] (initFields emd) = .ok ((initFields emd).set iv (.one (decodedV kv vv))) := by
  simp only [foldE, NRec.applyE, flatE]

/-- fields the entry type does not define are skipped -/
theorem map_entry_unknown_skipped (S : Schema) (emd : MD) (r : Rec) (rest : List NRec) (efs : List F) :
    foldE S emd (.flat (.unknown r) :: rest) efs = foldE S emd rest efs := by
  simp only [foldE, NRec.applyE, flatE]

def sM : Schema := [[⟨1, .msg 1, .map⟩], [⟨1, .sc .int32, .always⟩, ⟨2, .sc .string, .always⟩]]
def fdM : FD := ⟨1, .msg 1, .map⟩
def fkM : FD := ⟨1, .sc .int32, .always⟩
def fvM : FD := ⟨2, .sc .string, .always⟩
/-- entry 1: value "a" BEFORE key 5; entry 2: key 5 again, value omitted -/
def rsM : List NRec :=
  [.map 0 fdM 1 [.flat (.scalar 1 fvM .string (.bs [0x61])), .flat (.scalar 0 fkM .int32 (.num 5))],
   .map 0 fdM 1 [.flat (.scalar 0 fkM .int32 (.num 5))]]

theorem rsM_ok : OKs sM (sM.md 0) rsM := by
  have hs : (scalarOp .string 2 (.bs [0x61])).wire.length = 3 := by
    rw [← scalar_exact .string 2 (.bs [0x61]) validTag_2 (by simp [ValidScalar, V.b, maxFieldLen])]; decide
  have hk : (scalarOp .int32 1 (.num 5)).wire.length = 2 := by
    rw [← scalar_exact .int32 1 (.num 5) validTag_1 (by simp [ValidScalar])]; decide
  simp [OKs, NRec.OK, OKsE, NRec.OKE, flatOKE, rsM, sM, Schema.md, fdM, fkM, fvM, findField, C01.ValidTag, maxTagValue,
    DecValid, isRep, wiresN, NRec.wire, WRec.wire, maxFieldLen, V.b, hs, hk]

theorem map_entries_example : unmarshal sM false (sM.md 0) (wiresN rsM) = .ok ([.many [.msg [.one (.num 5), .one (.bs [])] []]], []) := by
  rw [unmarshal_nested sM false (sM.md 0) rsM rsM_ok]
  rfl

end Csproto.C06
